import LspVerif.Core.Name
import LspVerif.Core.Cmp
import LspVerif.Core.Meta
import LspVerif.Core.Py
import LspVerif.Spec.PySpec
import LspVerif.Props.C20
import LspVerif.Driver.Cmp
import LspVerif.Props.C04
import LspVerif.Core.Valid
import LspVerif.Props.C12
import LspVerif.Driver.Valid
import LspVerif.Spec.Messages
import LspVerif.Driver.Catalogue
import LspVerif.Core.Json
import LspVerif.Core.Cattrs
import LspVerif.Driver.Conv
import LspVerif.Props.Conv
import LspVerif.Props.C10
import LspVerif.Props.ConvTables
import LspVerif.Core.Erase
import LspVerif.Props.C15
import LspVerif.Props.C11
import LspVerif.Core.Loader
import LspVerif.Props.C18
import LspVerif.Core.Conc
import LspVerif.Core.Hist
import LspVerif.Props.C19
import LspVerif.Props.C16
import LspVerif.Spec.Wire
import LspVerif.Spec.Dotnet
import LspVerif.Spec.StrictValid
import LspVerif.Driver.Valid2
import LspVerif.Core.Rep
import LspVerif.Core.Dispatch
import LspVerif.Props.RepLemmas
import LspVerif.Props.Dispatch
import LspVerif.Props.ChkSound
import LspVerif.Props.Total
import LspVerif.Driver.Rep
import LspVerif.Core.Norm
import LspVerif.Props.UnstructLemmas
import LspVerif.Props.Unstruct
import LspVerif.Props.C01
import LspVerif.Spec.Link
import LspVerif.Props.Link
import LspVerif.Spec.TestGen
import LspVerif.Driver.TestGen
import LspVerif.Props.C17GenMsg
