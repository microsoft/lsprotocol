/-
  Typed readings.  `rep E bad n T v j` says: the Python value `v` is a well-typed instance of the
  annotation `T` (C03's notion: class instances with one value per attribute, converted sequence
  elements, tuples, enum members, uninterpreted JSON only at Any / LSPObject positions, at a union
  an instance of one alternative) *and* it is a faithful reading of the JSON value `j` (every key of
  every object node is a declared wire name of the class it is read as and is held by the
  corresponding attribute; attributes without a key hold their `None` default, and `None` is itself a
  typed value of their annotation; nothing that would be omitted on the way back is present).

  "j is valid for T" is then `∃ v n, rep E bad n T v j` — some typed reading exists (this is also
  C02's constructor path: any admissible choice of class at each union position).  The theorems
  (Props/Total.lean, Props/Unstruct.lean):

      T1  rep … T v j  →  ∃ v', structure(j, T) = ok v' ∧ rep … T v' j        (C03, C14, half of C01)
      T2  rep … T v j  →  ∃ j', unstructure(v) = ok j' ∧ j ⊑ j'               (C02, other half of C01)

  `bad` lists the annotations excluded from the claim (known findings and unions whose dispatch the
  checker of Core/Dispatch.lean cannot decide); `rep` is false at them, so a value that reaches one
  is outside the theorem — explicitly.

  Definitions only (the line-protocol driver and kernel examples evaluate them).
-/
import LspVerif.Core.Cattrs
namespace LspVerif

/-! ### structural equality of annotations (order-sensitive, unlike `PyTy.beq`) -/

def eqL {α} (f : α → α → Bool) : List α → List α → Bool
  | [], [] => true
  | a :: as, b :: bs => f a b && eqL f as bs
  | _, _ => false

def PyTy.eqF : Nat → PyTy → PyTy → Bool
  | 0, _, _ => false
  | n + 1, a, b =>
    match a, b with
    | .int, .int | .float, .float | .str, .str | .bool, .bool | .none, .none | .any, .any | .obj, .obj => true
    | .cls a, .cls b => a == b
    | .enum a, .enum b => a == b
    | .seq a, .seq b => PyTy.eqF n a b
    | .dict a b, .dict c d => PyTy.eqF n a c && PyTy.eqF n b d
    | .tuple a, .tuple b => eqL (PyTy.eqF n) a b
    | .union a, .union b => eqL (PyTy.eqF n) a b
    | .literal a, .literal b => a == b
    | .unknown a, .unknown b => a == b
    | _, _ => false

/-- top level without fuel recursion (most comparisons fail on the constructor or the name; the
    kernel evaluates thousands of these per obligation) -/
def PyTy.eqb (a b : PyTy) : Bool :=
  match a, b with
  | .int, .int | .float, .float | .str, .str | .bool, .bool | .none, .none | .any, .any | .obj, .obj => true
  | .cls a, .cls b => a == b
  | .enum a, .enum b => a == b
  | .seq a, .seq b => PyTy.eqF 16 a b
  | .dict a b, .dict c d => PyTy.eqF 16 a c && PyTy.eqF 16 b d
  | .tuple a, .tuple b => eqL (PyTy.eqF 16) a b
  | .union a, .union b => eqL (PyTy.eqF 16) a b
  | .literal a, .literal b => a == b
  | .unknown a, .unknown b => a == b
  | _, _ => false

def inU (U : List PyTy) (t : PyTy) : Bool := U.any (PyTy.eqb t)

/-! ### helpers -/

def keysNodup : List (Name × Json) → Bool
  | [] => true
  | (k, _) :: rest => !(Json.hasKey rest k) && keysNodup rest

def all2 {α β} (f : α → β → Bool) : List α → List β → Bool
  | [], [] => true
  | a :: as, b :: bs => f a b && all2 f as bs
  | _, _ => false

def all3 {α β γ} (f : α → β → γ → Bool) : List α → List β → List γ → Bool
  | [], [], [] => true
  | a :: as, b :: bs, c :: cs => f a b c && all3 f as bs cs
  | _, _, _ => false

def PyVal.isNone : PyVal → Bool
  | .none => true
  | _ => false

def Json.isNull : Json → Bool
  | .null => true
  | _ => false

mutual
/-- `v` is the Python object `json.loads` made of `j` (what an Any / LSPObject position holds) -/
def isOfJson : PyVal → Json → Bool
  | .none, .null => true
  | .bool a, .bool b => a == b
  | .int a, .int b => a == b
  | .float d, .dec b => (match d with | .dec a => a == b | _ => false)
  | .str a, .str b => a == b
  | .list vs, .arr xs => isOfJsonL vs xs
  | .dict ps, .obj kvs => isOfJsonK ps kvs
  | _, _ => false
def isOfJsonL : List PyVal → List Json → Bool
  | [], [] => true
  | v :: vs, x :: xs => isOfJson v x && isOfJsonL vs xs
  | _, _ => false
def isOfJsonK : List (PyVal × PyVal) → List (Name × Json) → Bool
  | [], [] => true
  | (.str k', v) :: ps, (k, x) :: kvs => k' == k && isOfJson v x && isOfJsonK ps kvs
  | _, _ => false
end

/-- An explicit `null` under an optional property whose type does not admit null is not a valid
    value (the metamodel reading; the converter would read it as unset).  Where the type admits null
    only through `LSPAny` (`data?: LSPAny`), an explicit `null` is valid and reads as unset.  A string
    equal to the literal default of an omitted-when-default field does not occur in the package. -/
def PyTy.anyNull : PyTy → Bool
  | .any => true
  | .union ts => ts.any (fun t => match t with | .any => true | _ => false)
  | _ => false

def Field.faithfulJ (f : Field) (x : Json) : Bool :=
  match f.dflt with
  | .none => !(f.omitU && x.isNull && !f.ty.anyNull)
  | .str s => !(f.omitU && (match x with | .str t => t == s | _ => false))
  | _ => true

def isBad (bad : List PyTy) (t : PyTy) : Bool := bad.any (PyTy.eqb t)

/-- attribute values lined up with the fields of the class -/
def repFields (r : PyTy → PyVal → Json → Bool) (kvs : List (Name × Json)) : List Field → List (Name × PyVal) → Bool
  | [], [] => true
  | f :: fs, (a, v) :: vs =>
    a == f.name &&
    (match Json.lookup kvs f.wireS with
     | some x => r f.ty v x && f.faithfulJ x
     | Option.none => f.dflt == Dflt.none && v.isNone && r f.ty .none .null) &&
    repFields r kvs fs vs
  | _, _ => false

def repEntry (r : PyTy → PyVal → Json → Bool) (k t : PyTy) (p : PyVal × PyVal) (kv : Name × Json) : Bool :=
  (match k with
   | .str => (match p.1 with | .str s => s == kv.1 | _ => false)
   | _ => r k p.1 (.str kv.1)) &&
  r t p.2 kv.2

/-- a raw primitive equal to a member, at a union position that has an enum alternative (only at
    unions other than `Optional[X]`: those are unstructured by the runtime class of the value, so a
    raw primitive passes; an `Optional[Enum]` attribute would call `.value` on it) -/
def rawEnum (r : PyTy → PyVal → Json → Bool) (ts : List PyTy) (v : PyVal) (j : Json) : Bool :=
  ts.any (fun t => match t with
    | .enum e => (match v, j with
      | .int i, .int i' => i == i' && r (.enum e) (.enum e (.i i)) j
      | .str s, .str s' => s == s' && r (.enum e) (.enum e (.s s)) j
      | _, _ => false)
    | _ => false)

def rep (E : Env) (bad : List PyTy) : Nat → PyTy → PyVal → Json → Bool
  | 0, _, _, _ => false
  | n + 1, ty, v, j =>
    !(isBad bad ty) &&
    (match ty with
     | .int => (match v, j with | .int a, .int b => a == b | _, _ => false)
     | .float => (match v, j with
       | .float d, .int b => (match d with | .int a => a == b | _ => false)
       | .float d, .dec b => (match d with | .dec a => a == b | _ => false)
       | _, _ => false)
     | .str => (match v, j with | .str a, .str b => a == b | _, _ => false)
     | .bool => (match v, j with | .bool a, .bool b => a == b | _, _ => false)
     | .none => (match v, j with | .none, .null => true | _, _ => false)
     | .any => isOfJson v j
     | .obj => (match j with | .obj _ => isOfJson v j | _ => false)
     | .enum e =>
       (match E.pkg.findEnum e, v with
        | some pe, .enum e' val => e' == e && pe.members.any (·.2 == val) &&
          (match val, j with
           | .s a, .str b => a == b
           | .i a, .int b => a == b
           | _, _ => false)
        | _, _ => false)
     | .literal vs => (match v, j with | .str a, .str b => a == b && vs.contains a | _, _ => false)
     | .cls c =>
       (match E.pkg.findCls c, v, j with
        | some cl, .inst c' vals, .obj kvs =>
          c' == cl.name && keysNodup kvs && kvs.all (fun kv => cl.fields.any (·.wireS == kv.1)) &&
          repFields (rep E bad n) kvs cl.fields vals &&
          (match runVlds E cl.name cl.fields vals with | .ok _ => true | .error _ => false)
        | _, _, _ => false)
     | .seq t => (match v, j with | .list vs, .arr xs => all2 (rep E bad n t) vs xs | _, _ => false)
     | .dict k t =>
       (match v, j with
        | .dict ps, .obj kvs => keysNodup kvs && all2 (repEntry (rep E bad n) k t) ps kvs
        | _, _ => false)
     | .tuple ts =>
       (match v, j with
        | .tuple vs, .arr xs => all3 (rep E bad n) ts vs xs
        | _, _ => false)
     | .union ts => ts.any (fun t => rep E bad n t v j) || ((PyTy.optionalOf ts).isNone && rawEnum (rep E bad n) ts v j)
     | .unknown _ => false)

/-- `j` is valid for `T`: it has a typed reading. -/
def Rep (E : Env) (bad : List PyTy) (ty : PyTy) (v : PyVal) (j : Json) : Prop := ∃ n, rep E bad n ty v j = true

def Str (E : Env) (ty : PyTy) (j : Json) (v : PyVal) : Prop := ∃ n, structTy E n ty j = .ok v

end LspVerif
