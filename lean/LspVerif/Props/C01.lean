/-
  C01 / C02 / C03 / C14.

  `roundtrip`: in an environment whose dispatch programs, class table (T1) and unstructure table (T2)
  pass their kernel-evaluated checks, for every annotation `T` in the checked universe and every JSON
  value `j` with a typed reading at it — any size, any nesting, every union alternative —

      structure(j, T) = ok v'      (C14: no union alternative fails)
      v' is a typed reading of j   (C03: well-typed; at a union an alternative j is valid for)
      unstructure(v') = ok j'      (both calling conventions)
      nrel T j j'                  (C01: j' is j up to the documented null rule — nothing j declares
                                    with a non-null value disappears or changes)

  `constructor_path` (C02): every typed reading `v` of `j` (what the constructors build) unstructures to
  such a `j'`; `v` reads `j'` too, so `j'` structures again, and the second serialisation `j''` has
  `nrel T j' j''`.
-/
import LspVerif.Props.Total
import LspVerif.Props.Unstruct
import LspVerif.Props.Link
namespace LspVerif

section
variable (E : Env) (bad : List PyTy)

def RoundTrips (A : PyTy) (j : Json) : Prop :=
  ∃ v', (∃ m, structTy E m A j = .ok v') ∧ (∃ k', rep E bad k' A v' j = true) ∧
    (∃ j' m, unstruct E m (some A) v' = .ok j' ∧ ∃ k, nrel E k A j j' = true) ∧
    (∃ j' m, unstruct E m Option.none v' = .ok j' ∧ ∃ k, nrel E k A j j' = true)

/-- the conclusion is `RoundTrips E bad ty j`, written out -/
theorem roundtrip (H : List PyTy) (hP : progsOK E bad H = true) (hC : clsesOK E bad H = true) (hU : clsesOKU E = true)
    (ty : PyTy) (k : Nat) (hty : lightOK E bad H k ty = true) (j : Json) (v : PyVal) (n : Nat)
    (h : rep E bad n ty v j = true) :
    ∃ v', (∃ m, structTy E m ty j = .ok v') ∧ (∃ k', rep E bad k' ty v' j = true) ∧
      (∃ j' m, unstruct E m (some ty) v' = .ok j' ∧ ∃ k, nrel E k ty j j' = true) ∧
      (∃ j' m, unstruct E m Option.none v' = .ok j' ∧ ∃ k, nrel E k ty j j' = true) := by
  obtain ⟨v', m, hm, k', hk'⟩ := T1 E bad H hP hC ty k hty j v n h
  obtain ⟨⟨j1, m1, h1, hn1, _⟩, ⟨j2, m2, h2, hn2, _⟩⟩ := T2 E bad hU hk'
  exact ⟨v', ⟨m, hm⟩, ⟨k', hk'⟩, ⟨j1, m1, h1, hn1⟩, ⟨j2, m2, h2, hn2⟩⟩

theorem constructor_path (H : List PyTy) (hP : progsOK E bad H = true) (hC : clsesOK E bad H = true) (hU : clsesOKU E = true)
    (ty : PyTy) (k : Nat) (hty : lightOK E bad H k ty = true) (j : Json) (v : PyVal) (n : Nat)
    (h : rep E bad n ty v j = true) :
    ∃ j' m, unstruct E m Option.none v = .ok j' ∧ (∃ k, nrel E k ty j j' = true) ∧
      ∃ v'' m', structTy E m' ty j' = .ok v'' ∧ (∃ k, rep E bad k ty v'' j' = true) ∧
        ∃ j'' m'', unstruct E m'' Option.none v'' = .ok j'' ∧ ∃ k, nrel E k ty j' j'' = true := by
  obtain ⟨_, ⟨j', m, hm, hn, ⟨r, hr⟩⟩⟩ := T2 E bad hU h
  obtain ⟨v'', m', hm', k', hk'⟩ := T1 E bad H hP hC ty k hty j' v r hr
  obtain ⟨_, ⟨j'', m'', hm'', hn'', _⟩⟩ := T2 E bad hU hk'
  exact ⟨j', m, hm, hn, v'', m', hm', ⟨k', hk'⟩, j'', m'', hm'', hn''⟩

end

/-- C01 "no loss" at one class node; for scalars the related value is the original one (`nrel_scalar_eq`). -/
theorem nrel_keeps (E : Env) (k : Nat) (c : Name) (a b : List (Name × Json)) (h : nrel E k (.cls c) (.obj a) (.obj b) = true)
    (key : Name) (x : Json) (hl : Json.lookup a key = some x) (hx : x.isNull = false) :
    ∃ cl f y, E.pkg.findCls c = some cl ∧ f ∈ cl.fields ∧ f.wireS = key ∧ Json.lookup b key = some y ∧ ∃ k', nrel E k' f.ty x y = true := by
  cases NRel_iff.mp ⟨k, h⟩ with
  | @cls _ cl _ _ hc _ hdecl _ _ hrel =>
    obtain ⟨f, hf, hfw⟩ := List.any_eq_true.mp (List.all_eq_true.mp hdecl (key, x) (mem_of_lookup hl))
    cases (eq_of_beq hfw : f.wireS = key)
    have hcl := hrel f hf
    rw [FieldRel, hl] at hcl
    cases hy : Json.lookup b f.wireS with
    | none =>
      -- absent from the output only if it was `null`
      rw [hy] at hcl
      rw [hcl.1] at hx
      cases hx
    | some y =>
      rw [hy] at hcl
      exact ⟨cl, f, y, hc, hf, rfl, rfl, hcl⟩
  | eq he => exact he.elim

theorem nrel_scalar_eq (E : Env) (k : Nat) (ty : PyTy) (j j' : Json)
    (hty : (match ty with | .cls _ | .seq _ | .dict _ _ | .tuple _ | .union _ => false | _ => true) = true)
    (h : nrel E k ty j j' = true) : j' = j := by
  cases NRel_iff.mp ⟨k, h⟩ with
  | eq => rfl
  | _ => cases hty

/-- **C01's last sentence** (no property that a valid reading of `j` declares disappears or changes value), at the root object. -/
theorem RoundTrips.no_loss {E : Env} {bad : List PyTy} {c : Name} {kvs : List (Name × Json)} (h : RoundTrips E bad (.cls c) (.obj kvs)) :
    ∃ v' out, (∃ m, structTy E m (.cls c) (.obj kvs) = .ok v') ∧ (∃ m, unstruct E m Option.none v' = .ok (.obj out)) ∧
      ∀ key x, Json.lookup kvs key = some x → x.isNull = false →
        ∃ y, Json.lookup out key = some y ∧ ∃ (f : Field) (k' : Nat), f.wireS = key ∧ nrel E k' f.ty x y = true := by
  obtain ⟨v', hs, _, _, ⟨j', m, hu, k, hk⟩⟩ := h
  obtain ⟨out, rfl⟩ : ∃ out, j' = .obj out := by cases (NRel_iff.mp ⟨k, hk⟩) <;> exact ⟨_, rfl⟩
  refine ⟨v', out, hs, ⟨m, hu⟩, fun key x hl hx => ?_⟩
  obtain ⟨_, f, y, _, _, hfk, hy, k', hr⟩ := nrel_keeps E k c kvs out hk key x hl hx
  exact ⟨y, hy, f, k', hfk, hr⟩

variable (M : Model) (E : Env) (bad : List PyTy)

def rootsLight (H : List PyTy) : Bool := E.pkg.classes.all (fun c => lightOK E bad H 1 (.cls c.name))

/-- the kernel-checked facts about the regenerated metamodel, package and hook programs (one bundle per run) -/
structure Checked (H : List PyTy) : Prop where
  progs : progsOK E bad H = true
  classes : clsesOK E bad H = true
  classesU : clsesOKU E = true
  roots : rootsLight E bad H = true
  structs : structsCover M E bad = true
  int32 : ∀ i, inInt32 i = true → (E.vld.int32 (.int i)).accepted = true
  uint31 : ∀ i, inUInt31 i = true → (E.vld.uint31 (.int i)).accepted = true

variable {M E bad}

theorem Checked.of_reading {H : List PyTy} (c : Checked M E bad H) {A : PyTy} {k : Nat} (hty : lightOK E bad H k A = true)
    {j : Json} (h : ∃ v n, rep E bad n A v j = true) : RoundTrips E bad A j := by
  obtain ⟨v, n, hr⟩ := h
  exact roundtrip E bad H c.progs c.classes c.classesU A k hty j v n hr

/-- `hc` is for an arbitrary `P`: `structCovers`, `requestCovered`, … are passed as they stand, and only the existence of the
    class is used (every class is a root of the checked universe: `rootsLight`) -/
theorem Checked.of_cls {H : List PyTy} (c : Checked M E bad H) {n : Name} {P : Cls → Bool}
    (hc : (match E.pkg.findCls n with | some cl => P cl | Option.none => false) = true) {j : Json}
    (h : ∃ v k, rep E bad k (.cls n) v j = true) : RoundTrips E bad (.cls n) j := by
  obtain ⟨cl, hcl, _⟩ := Cls.of_match hc
  have hl := List.all_eq_true.mp c.roots cl (List.mem_of_find?_eq_some hcl)
  rw [Pkg.findCls_name hcl] at hl
  exact c.of_reading hl h

/-- **C01 / C03 / C14 for metamodel-valid values.** -/
theorem Checked.roundtrip_ty {H : List PyTy} (c : Checked M E bad H) {T : Ty} {A : PyTy} {n k m : Nat}
    (hann : annOK M E bad n T A = true) (hty : lightOK E bad H k A = true) {j : Json}
    (hv : validTyC M m T j = true) (hw : Wf j) : RoundTrips E bad A j :=
  c.of_reading hty (valid_rep M E bad c.structs c.int32 c.uint31 m n T A j hann hv hw).rep

/-- **C02 for metamodel-valid values**: `j` has a typed reading (an object built by the constructors: class instances at
    protocol-object nodes, at each union the class of an alternative `j` is valid for), and every such reading takes
    `constructor_path`. -/
theorem Checked.constructor_ty {H : List PyTy} (c : Checked M E bad H) {T : Ty} {A : PyTy} {n k m : Nat}
    (hann : annOK M E bad n T A = true) (hty : lightOK E bad H k A = true) {j : Json}
    (hv : validTyC M m T j = true) (hw : Wf j) :
    (∃ v r, rep E bad r A v j = true) ∧
    ∀ v r, rep E bad r A v j = true →
      ∃ j' m', unstruct E m' Option.none v = .ok j' ∧ (∃ k, nrel E k A j j' = true) ∧
        ∃ v'' m'', structTy E m'' A j' = .ok v'' ∧ (∃ k, rep E bad k A v'' j' = true) ∧
          ∃ j'' m3, unstruct E m3 Option.none v'' = .ok j'' ∧ ∃ k, nrel E k A j' j'' = true :=
  ⟨(valid_rep M E bad c.structs c.int32 c.uint31 m n T A j hann hv hw).rep, constructor_path E bad H c.progs c.classes c.classesU A k hty j⟩

theorem Checked.roundtrip_struct {H : List PyTy} (c : Checked M E bad H) {s : Struct} (hs : s ∈ M.structures) {j : Json}
    (hv : validStructC M s j = true) (hw : Wf j) : RoundTrips E bad (.cls s.name) j :=
  c.of_cls (List.all_eq_true.mp c.structs s hs) (valid_struct_rep M E bad c.structs c.int32 c.uint31 s hs vFuel j hv hw)

/-- every type alias of the metamodel as a root type (`converter.structure(j, Alias)`) -/
theorem Checked.roundtrip_alias {H : List PyTy} (c : Checked M E bad H) {a : Alias} (hc : aliasCovered M E bad H a = true) {m : Nat} {j : Json}
    (hv : validTyC M m (.ref a.name) j = true) (hw : Wf j) :
    ∃ A, E.pkg.aliases.find? (·.1 == a.name) = some (a.name, A) ∧ RoundTrips E bad A j := by
  unfold aliasCovered at hc
  split at hc
  next p hf =>
    obtain ⟨h1, h2⟩ := Bool.and_eq_true_iff.mp hc
    refine ⟨p.2, ?_, c.roundtrip_ty h1 h2 hv hw⟩
    rw [hf, ← (TestGen.find?_name Prod.fst _ _ _ hf).2]
  next => cases hc

theorem Checked.roundtrip_request {H : List PyTy} (c : Checked M E bad H) {r : Request} (hc : requestCovered M E bad r = true) {j : Json}
    (hv : validRequestC M r j = true) (hw : Wf j) : ∃ e, entryOf E r.method = some e ∧ RoundTrips E bad (.cls e.req) j := by
  obtain ⟨e, he, hr⟩ := valid_request_rep M E bad c.structs c.int32 c.uint31 r hc j hv hw
  simp only [requestCovered, he] at hc
  exact ⟨e, he, c.of_cls hc hr⟩

theorem Checked.roundtrip_response {H : List PyTy} (c : Checked M E bad H) {r : Request} (hc : responseCovered M E bad r = true) {j : Json}
    (hv : validResponseC M r j = true) (hw : Wf j) :
    ∃ e rn, entryOf E r.method = some e ∧ e.resp = some rn ∧ RoundTrips E bad (.cls rn) j := by
  obtain ⟨e, rn, he, hrn, hr⟩ := valid_response_rep M E bad c.structs c.int32 c.uint31 r hc j hv hw
  simp only [responseCovered, he, hrn] at hc
  exact ⟨e, rn, he, hrn, c.of_cls hc hr⟩

theorem Checked.roundtrip_notification {H : List PyTy} (c : Checked M E bad H) {nt : Notification} (hc : notificationCovered M E bad nt = true) {j : Json}
    (hv : validNotificationC M nt j = true) (hw : Wf j) : ∃ e, entryOf E nt.method = some e ∧ RoundTrips E bad (.cls e.req) j := by
  obtain ⟨e, he, hr⟩ := valid_notification_rep M E bad c.structs c.int32 c.uint31 nt hc j hv hw
  simp only [notificationCovered, he] at hc
  exact ⟨e, he, c.of_cls hc hr⟩

end LspVerif
