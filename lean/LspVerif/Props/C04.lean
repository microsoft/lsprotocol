/-
  C04 — soundness of the conformance checker: an empty mismatch list means the ∀∃ statement of
  the property.  The instance obligations (`conformsStructs … = []` etc. on the regenerated tables)
  are discharged by `decide +kernel` in files generated by tools/props/c04.py.
-/
import LspVerif.Spec.PySpec
namespace LspVerif

structure FieldAgrees (e : ExpField) (f : Field) : Prop where
  wireS : f.wireS = e.wire
  wireU : f.wireU = e.wire
  ty : PyTy.beq f.ty e.ty = true
  required : (f.dflt == .nothing) = e.required
  dflt : f.dflt = e.dflt
  vld : f.vld = e.vld
  plain : f.plain = true

theorem fieldMismatches_sound {site : String} {e : ExpField} {f : Field}
    (hw : f.wireS = e.wire) (h : fieldMismatches site e f = []) : FieldAgrees e f := by
  simp only [fieldMismatches, List.append_eq_nil_iff] at h
  obtain ⟨⟨⟨⟨⟨h1, h2⟩, h3⟩, h4⟩, h5⟩, h6⟩ := h
  exact ⟨hw, eq_of_beq (of_ite_nil h1), of_ite_nil h2, eq_of_beq (of_ite_nil h3), eq_of_beq (of_ite_nil h4),
    eq_of_beq (of_ite_nil h5), of_ite_nil h6⟩

theorem classMismatches_sound {cname : String} {exp : List ExpField} {c : Cls}
    (h : classMismatches cname exp c = []) :
    (∀ e ∈ exp, ∃ f, c.fields.filter (·.wireS == e.wire) = [f] ∧ FieldAgrees e f) ∧
    (∀ f ∈ c.fields, ∃ e ∈ exp, e.wire = f.wireS) := by
  simp only [classMismatches, List.append_eq_nil_iff, List.flatMap_eq_nil_iff] at h
  refine ⟨fun e he => ?_, fun f hf => ?_⟩
  · have := h.1 e he
    split at this
    · next f hf =>
      have hm : f ∈ c.fields.filter (·.wireS == e.wire) := hf ▸ List.mem_singleton_self f
      exact ⟨f, hf, fieldMismatches_sound (eq_of_beq (List.mem_filter.1 hm).2) this⟩
    · cases this
    · cases this
  · obtain ⟨e, he, hw⟩ := List.any_eq_true.1 (of_ite_nil (h.2 f hf))
    exact ⟨e, he, eq_of_beq hw⟩

def StructFaithful (M : Model) (P : Pkg) (s : Struct) : Prop :=
  ∃ c, P.findCls s.name = some c ∧
    (∀ p ∈ flatten M s, ∃ f, c.fields.filter (·.wireS == p.name) = [f] ∧ FieldAgrees (expectedField M p) f) ∧
    (∀ f ∈ c.fields, ∃ p ∈ flatten M s, p.name = f.wireS)

theorem structMismatches_sound {M : Model} {P : Pkg} {s : Struct}
    (h : structMismatches M P s = []) : StructFaithful M P s := by
  unfold structMismatches at h
  split at h
  · cases h
  · next c hc =>
    obtain ⟨h1, h2⟩ := classMismatches_sound h
    -- `(expectedField M p).wire` is `p.name` by unfolding
    exact ⟨c, hc, fun p hp => h1 (expectedField M p) (List.mem_map_of_mem hp), fun f hf =>
      let ⟨_, he, hw⟩ := h2 f hf
      let ⟨p, hp, hpe⟩ := List.mem_map.1 he
      ⟨p, hp, (hpe ▸ hw : (expectedField M p).wire = _)⟩⟩

theorem conformsStructs_sound {M : Model} {P : Pkg} {ss : List Struct}
    (h : conformsStructs M P ss = []) : ∀ s ∈ ss, StructFaithful M P s := fun s hs =>
  -- the `nearestMismatches` half is a kernel-evaluated consistency check of the specification
  -- (`flatten` = `flattenBFS`); it has no Prop
  structMismatches_sound (List.append_eq_nil_iff.1 (List.flatMap_eq_nil_iff.1 h s hs)).1

def EnumFaithful (P : Pkg) (e : Enum) : Prop :=
  ∃ pe, P.findEnum e.name = some pe ∧ pe.base = enumBase e.base ∧ pe.members.map (·.2) = e.values.map (·.value)

theorem enumMismatches_sound {P : Pkg} {e : Enum} (h : enumMismatches P e = []) : EnumFaithful P e := by
  unfold enumMismatches at h
  split at h
  · cases h
  · next pe hpe =>
    rw [List.append_eq_nil_iff] at h
    exact ⟨pe, hpe, eq_of_beq (of_ite_nil h.1), eq_of_beq (of_ite_nil h.2)⟩

theorem conformsEnums_sound {M : Model} {P : Pkg} (h : conformsEnums M P = []) :
    ∀ e ∈ M.enumerations, EnumFaithful P e := fun e he =>
  enumMismatches_sound (List.flatMap_eq_nil_iff.1 h e he)

def AliasFaithful (M : Model) (P : Pkg) (a : Alias) : Prop :=
  ∃ t, P.aliases.find? (·.1 == a.name) = some (a.name, t) ∧ PyTy.beq t (pyTyOf M tyFuel (.ref a.name)) = true

theorem aliasMismatches_sound {M : Model} {P : Pkg} {a : Alias} (h : aliasMismatches M P a = []) :
    AliasFaithful M P a := by
  unfold aliasMismatches at h
  split at h
  · cases h
  · next n t hf =>
    cases eq_of_beq (List.find?_some (p := fun x : Name × PyTy => x.1 == a.name) hf)
    exact ⟨t, hf, of_ite_nil h⟩

theorem conformsAliases_sound {M : Model} {P : Pkg} (h : conformsAliases M P = []) :
    ∀ a ∈ M.aliases, AliasFaithful M P a := fun a ha =>
  aliasMismatches_sound (List.flatMap_eq_nil_iff.1 h a ha)

end LspVerif
