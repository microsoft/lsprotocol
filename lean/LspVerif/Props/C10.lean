/-
  C10 — null versus omitted.  `written_iff_property` (serialising) and `fieldVal_absent` (parsing: an
  absent key reads as the attribute's default) are the property's iff, for every attribute value; the
  table checkers supply their hypotheses.
-/
import LspVerif.Props.Conv
import LspVerif.Spec.Messages
namespace LspVerif

def fieldOmitOK (e : ExpField) (c : Cls) : Bool :=
  match c.fields.filter (·.wireS == e.wire) with
  | [f] => f.omitU == e.omitDflt && f.dflt == e.dflt && f.wireU == e.wire
  | _ => false

def classOmitOK (P : Pkg) (cls : Name) (exp : List ExpField) : Bool :=
  match P.findCls cls with
  | some c => exp.all (fieldOmitOK · c)
  | none => false

def structOmitOK (M : Model) (P : Pkg) (s : Struct) : Bool := classOmitOK P s.name (expectedFields M s)

def requestOmitOK (M : Model) (P : Pkg) (r : Request) : Bool :=
  match r.cls, r.respCls with
  | some cls, some resp => classOmitOK P cls (expectedRequestFields M r cls) && classOmitOK P resp (expectedResponseFields M r)
  | _, _ => false

def notificationOmitOK (M : Model) (P : Pkg) (n : Notification) : Bool :=
  match n.cls with
  | some cls => classOmitOK P cls (expectedNotificationFields M n cls)
  | none => false

def OmitAgrees (e : ExpField) (c : Cls) : Prop :=
  ∃ f, c.fields.filter (·.wireS == e.wire) = [f] ∧ f.omitU = e.omitDflt ∧ f.dflt = e.dflt ∧ f.wireU = e.wire

theorem fieldOmitOK_sound {e : ExpField} {c : Cls} (h : fieldOmitOK e c = true) : OmitAgrees e c := by
  unfold fieldOmitOK at h
  split at h
  · rename_i f hf
    simp only [Bool.and_eq_true, beq_iff_eq] at h
    exact ⟨f, hf, h.1.1, h.1.2, h.2⟩
  · cases h

theorem classOmitOK_sound {P : Pkg} {cls : Name} {exp : List ExpField} (h : classOmitOK P cls exp = true) :
    ∃ c, P.findCls cls = some c ∧ ∀ e ∈ exp, OmitAgrees e c := by
  unfold classOmitOK at h
  split at h
  · rename_i c hc
    exact ⟨c, hc, fun e he => fieldOmitOK_sound (List.all_eq_true.mp h e he)⟩
  · cases h

theorem written_iff_property (M : Model) (p : Prp) (f : Field) (v : PyVal)
    (ho : f.omitU = (expectedField M p).omitDflt) (hd : f.dflt = (expectedField M p).dflt) :
    f.written v = false ↔
      (p.optional = true ∧ p.ty.nullAdmitting = false ∧ p.ty.isStrLit = false ∧ PyVal.beq v .none = true) := by
  rw [Field.written_iff, ho, hd]
  obtain ⟨name, ty, optional, proposed⟩ := p
  simp only [expectedField, Prp.opt]
  cases hl : ty.isStrLit
  · rw [expectedDflt_nonlit ty _ hl]
    cases ty.nullAdmitting <;> cases optional <;> simp [Dflt.toVal]
  ·
    simp

theorem fieldVal_absent (recur : PyTy → Json → Except Err PyVal) (cls : Name) (kvs : List (Name × Json)) (f : Field)
    (d : PyVal) (hl : Json.lookup kvs f.wireS = Option.none) (hd : f.dflt.toVal = some d) :
    fieldVal recur cls kvs f = .ok d := by
  simp only [fieldVal, hl, hd]

end LspVerif
