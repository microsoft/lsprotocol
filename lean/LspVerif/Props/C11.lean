/-
  C11 — spec-invalid single-field deviations are rejected: the four theorems `C11_*`, for every object
  and every non-optional property.  The table checker tests annotations exactly (`isInt`, `isStr`,
  `isEnum`), not up to union order as `PyTy.beq` does.
-/
import LspVerif.Props.Conv
import LspVerif.Props.C12
namespace LspVerif

def PyTy.isInt : PyTy → Bool | .int => true | _ => false
def PyTy.isStr : PyTy → Bool | .str => true | _ => false
def PyTy.isEnum (e : Name) : PyTy → Bool | .enum n => n == e | _ => false

theorem PyTy.isInt_inv {t : PyTy} (h : t.isInt = true) : t = .int := by
  unfold PyTy.isInt at h
  split at h
  · rfl
  · cases h

theorem PyTy.isStr_inv {t : PyTy} (h : t.isStr = true) : t = .str := by
  unfold PyTy.isStr at h
  split at h
  · rfl
  · cases h

theorem PyTy.isEnum_inv {t : PyTy} {e : Name} (h : t.isEnum e = true) : t = .enum e := by
  unfold PyTy.isEnum at h
  split at h
  · rw [eq_of_beq h]
  · cases h

def c11Facts (M : Model) (f : Field) (p : Prp) : Bool :=
  (if !p.opt && !p.ty.isStrLit then f.dflt == .nothing else true) &&
  (match p.ty with
   | .base .integer => if p.opt then true else f.ty.isInt && f.vld == .int32
   | .base .uinteger => if p.opt then true else f.ty.isInt && f.vld == .uint31
   | .strLit l => if p.opt then true else f.ty.isStr && f.vld == .inLit [l]
   | .ref r =>
     (match M.findEnum r with
      | some e => if e.custom || p.opt then true else f.ty.isEnum r
      | Option.none => true)
   | _ => true)

def c11FieldOK (M : Model) (c : Cls) (p : Prp) : Bool :=
  match c.fields.filter (·.wireS == p.name) with
  | [f] => c11Facts M f p
  | _ => false

def c11StructOK (M : Model) (P : Pkg) (s : Struct) : Bool :=
  match P.findCls s.name with
  | some c => (flatten M s).all (c11FieldOK M c)
  | Option.none => false

/-- No hook is registered for the plain types the edits go through. -/
def c11EnvOK (M : Model) (E : Env) : Bool :=
  (E.hookFor .int).isNone && (E.hookFor .str).isNone &&
  M.enumerations.all (fun e => e.custom || ((E.hookFor (.enum e.name)).isNone && (E.pkg.findEnum e.name).isSome))

theorem Ty.eq_base_of_beq {t : Ty} {b : Base} (h : (t == .base b) = true) : t = .base b := by
  cases t with
  | base a => exact congrArg Ty.base (of_decide_eq_true h)
  | _ => exact nomatch h

theorem c11StructOK_sound {M : Model} {P : Pkg} {s : Struct} (h : c11StructOK M P s = true) :
    ∃ c, P.findCls s.name = some c ∧ ∀ p ∈ flatten M s, ∃ f, f ∈ c.fields ∧ f.wireS = p.name ∧ c11Facts M f p = true := by
  unfold c11StructOK at h
  split at h
  · rename_i c hc
    refine ⟨c, hc, fun p hp => ?_⟩
    have := List.all_eq_true.mp h p hp
    unfold c11FieldOK at this
    split at this
    · rename_i f hf
      have hm : f ∈ c.fields.filter (·.wireS == p.name) := hf ▸ List.mem_singleton_self f
      exact ⟨f, (List.mem_filter.mp hm).1, eq_of_beq (List.mem_filter.mp hm).2, this⟩
    · cases this
  · cases h

theorem c11EnvOK_sound {M : Model} {E : Env} (h : c11EnvOK M E = true) :
    E.hookFor .int = Option.none ∧ E.hookFor .str = Option.none ∧
    ∀ e ∈ M.enumerations, e.custom = false →
      E.hookFor (.enum e.name) = Option.none ∧ ∃ pe, E.pkg.findEnum e.name = some pe := by
  simp only [c11EnvOK, Bool.and_eq_true, List.all_eq_true, Bool.or_eq_true, Option.isNone_iff_eq_none,
    Option.isSome_iff_exists] at h
  exact ⟨h.1.1, h.1.2, fun e he hc => (h.2 e he).resolve_left (by rw [hc]; nofun)⟩

/-- Edit 1: removing a required property (neither optional, nor null-admitting, nor a literal). -/
theorem C11_missing_required (M : Model) (E : Env) (s : Struct) (h : c11StructOK M E.pkg s = true) :
    ∃ c, E.pkg.findCls s.name = some c ∧ ∀ p ∈ flatten M s, p.opt = false → p.ty.isStrLit = false →
      ∀ (recur : PyTy → Json → Except Err PyVal) (kvs : List (Name × Json)), Json.lookup kvs p.name = Option.none →
        ∃ e, structCls E recur c (.obj kvs) = .error e := by
  obtain ⟨c, hc, hall⟩ := c11StructOK_sound h
  refine ⟨c, hc, fun p hp hopt hlit recur kvs hl => ?_⟩
  obtain ⟨f, hm, hw, hf⟩ := hall p hp
  simp only [c11Facts, hopt, hlit, Bool.not_false, Bool.and_self, if_true, Bool.and_eq_true, beq_iff_eq] at hf
  exact structCls_error_of_missing E recur c kvs f hm (hw ▸ hl) (by rw [hf.1]; rfl)

/-- Edits 2 and 4 at one attribute: the handler of its annotation accepts the value, as `v`, and the
    attrs validator run by `__init__` rejects `v` (`hn`: `runFieldVld` does not call `Vld.none`). -/
theorem c11_rejected (E : Env) (recur : PyTy → Json → Except Err PyVal) (c : Cls) (kvs : List (Name × Json))
    (f : Field) (x : Json) (v : PyVal) (pv : PV) (hm : f ∈ c.fields) (hl : Json.lookup kvs f.wireS = some x)
    (hx : recur f.ty x = .ok v) (hv : v.toPV = some pv) (hn : f.vld ≠ .none)
    (hr : (runVld E.vld f.vld pv).accepted = false) : ∃ e, structCls E recur c (.obj kvs) = .error e := by
  refine structCls_error_of_field E recur c kvs f hm (fun w hw => ⟨.validator c.name f.name, ?_⟩)
  cases hx.symm.trans (by simpa only [fieldVal, hl] using hw)
  unfold runFieldVld
  split
  · exact absurd ‹_› hn
  · simp only [hv, hr, Bool.false_eq_true, if_false]

theorem c11_out_of_range {M : Model} {E : Env} {c : Cls} {f : Field} {p : Prp} (hm : f ∈ c.fields)
    (hw : f.wireS = p.name) (hf : c11Facts M f p = true) (hopt : p.opt = false)
    (hi : E.hookFor .int = Option.none) {b : Base} {vl : Vld} (hb : intVldOf b = some vl)
    (hty : (p.ty == .base b) = true) (n : Nat) (kvs : List (Name × Json)) (i : Int)
    (hl : Json.lookup kvs p.name = some (.int i)) (hbad : (runVld E.vld vl (.int i)).accepted = false) :
    ∃ e, structCls E (structTy E (n + 1)) c (.obj kvs) = .error e := by
  have ⟨hft, hfv⟩ : f.ty = .int ∧ f.vld = vl := by
    cases b <;> cases hb <;>
      simp only [c11Facts, hopt, Ty.eq_base_of_beq hty, Bool.false_eq_true, if_false, Bool.and_eq_true, beq_iff_eq] at hf <;>
      exact ⟨PyTy.isInt_inv hf.2.1, hf.2.2⟩
  refine c11_rejected E _ c kvs f (.int i) (.int i) (.int i) hm (hw ▸ hl) ?_ rfl ?_ (hfv ▸ hbad)
  · rw [hft]; simp only [structTy, hi, coerceIntJ]
  · rw [hfv]; cases b <;> cases hb <;> exact Vld.noConfusion

/-- Edit 2, non-optional properties only: an integer / uinteger property replaced by an int outside
    its range.  The premise `(E.vld.int32 …).accepted = false` (resp. `uint31`) is discharged per run
    from the translated validator bodies (`C11_validators_reject` in tools/props/c11.py). -/
theorem C11_out_of_range (M : Model) (E : Env) (s : Struct) (h : c11StructOK M E.pkg s = true)
    (he : c11EnvOK M E = true) :
    ∃ c, E.pkg.findCls s.name = some c ∧ ∀ p ∈ flatten M s, p.opt = false →
      ∀ (n : Nat) (kvs : List (Name × Json)) (i : Int), Json.lookup kvs p.name = some (.int i) →
        ((p.ty == .base .integer) = true → (E.vld.int32 (.int i)).accepted = false →
          ∃ e, structCls E (structTy E (n + 1)) c (.obj kvs) = .error e) ∧
        ((p.ty == .base .uinteger) = true → (E.vld.uint31 (.int i)).accepted = false →
          ∃ e, structCls E (structTy E (n + 1)) c (.obj kvs) = .error e) := by
  obtain ⟨c, hc, hall⟩ := c11StructOK_sound h
  obtain ⟨hint, _, _⟩ := c11EnvOK_sound he
  refine ⟨c, hc, fun p hp hopt n kvs i hl => ?_⟩
  obtain ⟨f, hm, hw, hf⟩ := hall p hp
  exact ⟨fun hty hbad => c11_out_of_range hm hw hf hopt hint (b := .integer) rfl hty n kvs i hl hbad,
         fun hty hbad => c11_out_of_range hm hw hf hopt hint (b := .uinteger) rfl hty n kvs i hl hbad⟩

/-- Edit 3, non-optional properties only: a closed-enumeration property replaced by a string / int
    outside the enumeration.  (`e ∈ M.enumerations` and `e.name = r` are consequences of
    `M.findEnum r = some e`.) -/
theorem C11_not_a_member (M : Model) (E : Env) (s : Struct) (h : c11StructOK M E.pkg s = true)
    (he : c11EnvOK M E = true) :
    ∃ c, E.pkg.findCls s.name = some c ∧ ∀ p ∈ flatten M s, p.opt = false →
      ∀ r e, p.ty = .ref r → M.findEnum r = some e → e ∈ M.enumerations → e.name = r → e.custom = false →
      ∃ pe, E.pkg.findEnum r = some pe ∧
      ∀ (n : Nat) (kvs : List (Name × Json)),
        (∀ x : Name, Json.lookup kvs p.name = some (.str x) → pe.members.any (·.2 == .s x) = false →
          ∃ err, structCls E (structTy E (n + 1)) c (.obj kvs) = .error err) ∧
        (∀ x : Int, Json.lookup kvs p.name = some (.int x) → pe.members.any (·.2 == .i x) = false →
          ∃ err, structCls E (structTy E (n + 1)) c (.obj kvs) = .error err) := by
  obtain ⟨c, hc, hall⟩ := c11StructOK_sound h
  refine ⟨c, hc, fun p hp hopt r e hty hfe hmem hname hcust => ?_⟩
  obtain ⟨f, hm, hw, hf⟩ := hall p hp
  obtain ⟨hh, pe, hpe⟩ := hname ▸ (c11EnvOK_sound he).2.2 e hmem hcust
  simp only [c11Facts, hty, hfe, hcust, hopt, Bool.or_self, Bool.false_eq_true, if_false, Bool.and_eq_true] at hf
  -- the enum handler raises on a non-member, so the attribute gets no value at all
  have key : ∀ (n : Nat) (kvs : List (Name × Json)) (x : Json) (ev : EnumVal),
      Json.lookup kvs p.name = some x → structTy E (n + 1) (.enum r) x = lookupEnum pe ev →
      pe.members.any (·.2 == ev) = false → ∃ err, structCls E (structTy E (n + 1)) c (.obj kvs) = .error err :=
    fun n kvs x ev hl hs hnot => structCls_error_of_field E _ c kvs f hm
      (fun v hv => by
        have hv : structTy E (n + 1) f.ty x = .ok v := by simpa only [fieldVal, hw, hl] using hv
        rw [PyTy.isEnum_inv hf.2, hs, lookupEnum, hnot] at hv
        cases hv)
  exact ⟨pe, hpe, fun n kvs =>
    ⟨fun x hl hnot => key n kvs _ (.s x) hl (by simp only [structTy, hh, hpe]) hnot,
     fun x hl hnot => key n kvs _ (.i x) hl (by simp only [structTy, hh, hpe]) hnot⟩⟩

/-- Edit 4, non-optional properties only: a string-literal property replaced by a different string. -/
theorem C11_wrong_literal (M : Model) (E : Env) (s : Struct) (h : c11StructOK M E.pkg s = true)
    (he : c11EnvOK M E = true) :
    ∃ c, E.pkg.findCls s.name = some c ∧ ∀ p ∈ flatten M s, p.opt = false → ∀ l, p.ty = .strLit l →
      ∀ (n : Nat) (kvs : List (Name × Json)) (x : Name), Json.lookup kvs p.name = some (.str x) → (x == l) = false →
        ∃ err, structCls E (structTy E (n + 1)) c (.obj kvs) = .error err := by
  obtain ⟨c, hc, hall⟩ := c11StructOK_sound h
  obtain ⟨_, hstr, _⟩ := c11EnvOK_sound he
  refine ⟨c, hc, fun p hp hopt l hty n kvs x hl hne => ?_⟩
  obtain ⟨f, hm, hw, hf⟩ := hall p hp
  simp only [c11Facts, hopt, hty, Bool.false_eq_true, if_false, Bool.and_eq_true, beq_iff_eq] at hf
  refine c11_rejected E _ c kvs f (.str x) (.str x) (.str x) hm (hw ▸ hl) ?_ rfl ?_ ?_
  · rw [PyTy.isStr_inv hf.2.1]; simp only [structTy, hstr]
  · rw [hf.2.2]; exact Vld.noConfusion
  · rw [hf.2.2]; simp only [runVld, List.contains_cons, hne]; rfl

end LspVerif
