/-
  C12 — generic part: the two entry points run the same validator on an int, and the table
  checker that every directly integer-typed property carries the matching validator.
  The exactness theorems about the validator bodies are in the per-run instance file
  (tools/props/c12.py), proved against the definitions translated from validators.py.
-/
import LspVerif.Core.Valid
import LspVerif.Spec.PySpec
namespace LspVerif

theorem entry_points_agree (E : VldEnv) (f : Field) (i : Int)
    (ht : PyTy.beq f.ty .int = true ∨ PyTy.beq f.ty (PyTy.optional .int) = true) :
    structureEntryInt E f (.int i) = some (constructEntry E f (.int i)) := by
  unfold structureEntryInt constructEntry
  rcases ht with h | h
  · simp [h, coerceInt]
  · by_cases h0 : PyTy.beq f.ty .int = true
    · simp [h0, coerceInt]
    · simp [h0, h, coerceInt]

def intVldOf : Base → Option Vld
  | .integer => some .int32
  | .uinteger => some .uint31
  | _ => none

def intFieldMismatches (M : Model) (P : Pkg) (s : Struct) : List Mismatch :=
  match P.findCls s.name with
  | none => [⟨s.name.toString, "class-missing", "", ""⟩]
  | some c => (flatten M s).flatMap (fun p =>
      match p.ty with
      | .base b => match intVldOf b with
        | none => []
        | some v =>
          match c.fields.filter (·.wireS == p.name) with
          | [f] =>
            let site := s.name.toString ++ "." ++ p.name.toString
            (if (if p.opt then f.vld == .opt v else f.vld == v) then [] else [⟨site, "range-validator", toString (repr v), toString (repr f.vld)⟩]) ++
            (if (if p.opt then PyTy.beq f.ty (PyTy.optional .int) else PyTy.beq f.ty .int) then [] else [⟨site, "int-annotation", "int", showTy f.ty⟩])
          | _ => [⟨s.name.toString ++ "." ++ p.name.toString, "attribute-not-unique", "", ""⟩]
      | _ => [])

def intFieldsOK (M : Model) (P : Pkg) : List Mismatch := M.structures.flatMap (intFieldMismatches M P)

/-- The integer-typed attribute sites; the per-run `C12_sites` (tools/props/c12.py) ties their number to the sites the
    correspondence stream visits. -/
def intSites (M : Model) : List (Name × Name × Base × Bool) :=
  M.structures.flatMap (fun s => (flatten M s).filterMap (fun p =>
    match p.ty with
    | .base .integer => some (s.name, p.name, .integer, p.opt)
    | .base .uinteger => some (s.name, p.name, .uinteger, p.opt)
    | _ => none))

theorem intFieldsOK_sound {M : Model} {P : Pkg} (h : intFieldsOK M P = []) :
    ∀ s ∈ M.structures, ∃ c, P.findCls s.name = some c ∧
      ∀ p ∈ flatten M s, ∀ b v, p.ty = .base b → intVldOf b = some v →
        ∃ f, c.fields.filter (·.wireS == p.name) = [f] ∧
          f.vld = (if p.opt then .opt v else v) ∧
          PyTy.beq f.ty (if p.opt then PyTy.optional .int else .int) = true := by
  intro s hs
  have hs' := List.flatMap_eq_nil_iff.mp h s hs
  unfold intFieldMismatches at hs'
  split at hs'
  · cases hs'
  · rename_i c hc
    refine ⟨c, hc, fun p hp b v hty hv => ?_⟩
    have := List.flatMap_eq_nil_iff.mp hs' p hp
    simp only [hty, hv] at this
    split at this
    · rename_i f hf
      obtain ⟨h1, h2⟩ := List.append_eq_nil_iff.mp this
      have h1 := of_ite_nil h1
      have h2 := of_ite_nil h2
      refine ⟨f, hf, ?_⟩
      generalize p.opt = o at h1 h2
      cases o <;> exact ⟨eq_of_beq h1, h2⟩
    · cases this

end LspVerif
