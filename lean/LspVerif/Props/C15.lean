/-
  C15, globally: structuring ignores an undeclared key wherever the model consumes an object as a
  protocol object, at any depth, through every hook and disambiguator dispatch.

  `eraseJ k j` removes key `k` from every object node of `j`.  `clean E k n ty j` walks `j` exactly
  as `structTy E n ty j` does and says that `k` does not occur inside any part of `j` that is
  consumed as *content* (positions typed Any / LSPObject / None / a scalar, the keys of a
  `Dict[...]`, `return object_`, `str(object_)`, `len(object_)` of a dict).  The theorem:

      kFreshEnv E k → clean E k n ty j → structTy E n ty (eraseJ k j) = structTy E n ty j

  for every environment, fuel, type and JSON value — valid or not, success or error.
  `kFreshEnv E k` (no generated class function forbids extra keys; `k` is no wire name of any class;
  no hook or disambiguator program mentions `k`) is a decidable fact about the regenerated tables,
  discharged once for all undeclared `k` by `declaredKeys ⊆ names of the metamodel`.
-/
import LspVerif.Props.ConvTables
import LspVerif.Core.Erase
namespace LspVerif

mutual
theorem eraseJ_of_kFree (k : Name) : ∀ j, kFreeJ k j = true → eraseJ k j = j
  | .arr xs, h => congrArg Json.arr (eraseL_of_kFree k xs h)
  | .obj kvs, h => congrArg Json.obj (eraseKvs_of_kFree k kvs h)
  | .null, _ => rfl
  | .bool _, _ => rfl
  | .int _, _ => rfl
  | .dec _, _ => rfl
  | .str _, _ => rfl
theorem eraseL_of_kFree (k : Name) : ∀ xs, kFreeL k xs = true → eraseL k xs = xs
  | [], _ => rfl
  | x :: xs, h => by
    simp only [kFreeL, Bool.and_eq_true] at h
    simp only [eraseL, eraseJ_of_kFree k x h.1, eraseL_of_kFree k xs h.2]
theorem eraseKvs_of_kFree (k : Name) : ∀ kvs, kFreeKvs k kvs = true → eraseKvs k kvs = kvs
  | [], _ => rfl
  | (w, v) :: rest, h => by
    simp only [kFreeKvs, Bool.and_eq_true, Bool.not_eq_true'] at h
    simp only [eraseKvs, h.1.1, Bool.false_eq_true, if_false, eraseJ_of_kFree k v h.1.2, eraseKvs_of_kFree k rest h.2]
end

theorem eraseL_eq_map (k : Name) : ∀ xs, eraseL k xs = xs.map (eraseJ k)
  | [] => rfl
  | x :: xs => congrArg (eraseJ k x :: ·) (eraseL_eq_map k xs)

theorem eraseJ_kind (k : Name) (j : Json) : (eraseJ k j).kind = j.kind := by
  cases j <;> rfl

theorem lookup_eraseKvs (k w : Name) (hw : (w == k) = false) :
    ∀ kvs, Json.lookup (eraseKvs k kvs) w = (Json.lookup kvs w).map (eraseJ k)
  | [] => rfl
  | (w', v) :: rest => by
    have ih := lookup_eraseKvs k w hw rest
    cases h : w' == k
    · simp only [eraseKvs, h, Bool.false_eq_true, if_false, Json.lookup]
      split
      · rfl
      · exact ih
    · have hne : (w' == w) = false := by rw [eq_of_beq h, BEq.comm]; exact hw
      simp only [eraseKvs, h, if_true, Json.lookup, hne, Bool.false_eq_true, if_false, ih]

theorem hasKey_eraseKvs (k w : Name) (hw : (w == k) = false) (kvs : List (Name × Json)) :
    Json.hasKey (eraseKvs k kvs) w = Json.hasKey kvs w := by
  simp [Json.hasKey, lookup_eraseKvs k w hw kvs]

theorem eraseKvs_no_top (k : Name) : ∀ kvs, Json.hasKey kvs k = false →
    eraseKvs k kvs = kvs.map (fun kv => (kv.1, eraseJ k kv.2))
  | [], _ => rfl
  | (w, v) :: rest, h => by
    cases hw : w == k
    · simp only [Json.hasKey, Json.lookup, hw, Bool.false_eq_true, if_false] at h
      simp only [eraseKvs, hw, Bool.false_eq_true, if_false, List.map, eraseKvs_no_top k rest h]
    · simp [Json.hasKey, Json.lookup, hw] at h

theorem mapE_erase {β} (k : Name) (f : Json → Except Err β) (xs : List Json) (h : ∀ x ∈ xs, f (eraseJ k x) = f x) :
    mapE f (eraseL k xs) = mapE f xs := by
  rw [eraseL_eq_map, mapE_map]
  exact mapE_congr _ _ xs h

theorem contains_cons_false {k w : Name} {l : List Name} (h : (w :: l).contains k = false) :
    (w == k) = false ∧ l.contains k = false := by
  simp only [List.contains_cons, Bool.or_eq_false_iff] at h
  exact ⟨by rw [BEq.comm]; exact h.1, h.2⟩

theorem Path.eval_erase (k : Name) : ∀ (p : Path) (j : Json), (p.keys.contains k) = false →
    p.eval (eraseJ k j) = (p.eval j).map (eraseJ k)
  | .self, j, _ => rfl
  | .idx p i, j, h => by
    simp only [Path.eval, Path.eval_erase k p j h, bind, Except.bind, Except.map]
    cases p.eval j with
    | error e => rfl
    | ok x =>
      cases x with
      | arr xs => simp only [eraseJ, eraseL_eq_map, List.getElem?_map]; cases xs[i]? <;> rfl
      | _ => rfl
  | .key p w, j, h => by
    have hk := contains_cons_false h
    simp only [Path.eval, Path.eval_erase k p j hk.2, bind, Except.bind, Except.map]
    cases p.eval j with
    | error e => rfl
    | ok x =>
      cases x with
      | obj kvs => simp only [eraseJ, lookup_eraseKvs k w hk.1 kvs]; cases Json.lookup kvs w <;> rfl
      | _ => rfl

/-- Every atom of `Cond.eval` is `p.eval j >>= g` for a test `g` that cannot tell a value from its erasure. -/
theorem Path.bind_eval_erase {β} (k : Name) (p : Path) (j : Json) (hk : p.keys.contains k = false)
    (g : Json → Except Err β) (hg : ∀ x, p.eval j = .ok x → g (eraseJ k x) = g x) :
    (p.eval (eraseJ k j) >>= g) = (p.eval j >>= g) := by
  rw [Path.eval_erase k p j hk]
  cases hp : p.eval j with
  | error e => rfl
  | ok x => exact hg x hp

theorem Cond.eval_erase (k : Name) : ∀ (c : Cond) (j : Json), (c.keys.contains k) = false → c.clean k j = true →
    c.eval (eraseJ k j) = c.eval j
  | .tt, _, _, _ => rfl
  | .ff, _, _, _ => rfl
  | .isNone p, j, h, _ => Path.bind_eval_erase k p j h _ (fun x _ => by cases x <;> rfl)
  | .isInst p ks, j, h, _ => Path.bind_eval_erase k p j h _ (fun x _ => by rw [eraseJ_kind])
  | .hasKey p w, j, h, _ =>
    have hk := contains_cons_false h
    Path.bind_eval_erase k p j hk.2 _ (fun x _ => by
      cases x with
      | arr xs => exact congrArg Except.ok (by rw [eraseL_eq_map, List.any_map]; congr 1; funext x; cases x <;> rfl)
      | obj kvs => exact congrArg Except.ok (hasKey_eraseKvs k w hk.1 kvs)
      | _ => rfl)
  | .keyEq p w s, j, h, _ => Path.bind_eval_erase k (.key p w) j h _ (fun x _ => by cases x <;> rfl)
  | .lenEq p n, j, h, hc =>
    -- the one test that sees the set of keys: `clean` says the dict it measures has no top-level `k`
    Path.bind_eval_erase k p j h _ (fun x hp => by
      cases x with
      | arr xs => simp only [eraseJ, eraseL_eq_map, List.length_map]
      | obj kvs =>
        have : Json.hasKey kvs k = false := by simpa [Cond.clean, hp] using hc
        simp only [eraseJ, eraseKvs_no_top k kvs this, List.length_map]
      | _ => rfl)
  | .not c, j, h, hc => by
    simp only [Cond.eval, Cond.eval_erase k c j h hc]
  | .and a b, j, h, hc | .or a b, j, h, hc => by
    simp only [Cond.keys, List.contains_append, Bool.or_eq_false_iff] at h
    simp only [Cond.clean, Bool.and_eq_true] at hc
    simp only [Cond.eval, Cond.eval_erase k a j h.1 hc.1, Cond.eval_erase k b j h.2 hc.2]

theorem HExpr.run_erase (k : Name) (recur : PyTy → Json → Except Err PyVal) (cl : PyTy → Json → Bool)
    (hr : ∀ t x, cl t x = true → recur t (eraseJ k x) = recur t x) :
    ∀ (h : HExpr) (j : Json), (h.keys.contains k) = false → h.clean k cl j = true →
      h.run recur (eraseJ k j) = h.run recur j
  | .retNone, _, _, _ => rfl
  | .retEmptyList, _, _, _ => rfl
  | .raise _, _, _, _ => rfl
  | .retSelf, j, _, hc => by rw [eraseJ_of_kFree k j hc]
  | .strOf, j, _, hc => by rw [eraseJ_of_kFree k j hc]
  | .tupleInts _, j, _, hc => by rw [eraseJ_of_kFree k j hc]
  | .structAs t, j, _, hc => hr t j hc
  | .mapEach e, j, hk, hc => by
    cases j with
    | arr xs =>
      simp only [eraseJ, HExpr.run, mapE_erase k _ xs (fun x hx =>
        HExpr.run_erase k recur cl hr e x hk (List.all_eq_true.mp hc x hx))]
    | _ => rfl
  | .ite c a b, j, hk, hc => by
    simp only [HExpr.keys, List.contains_append, Bool.or_eq_false_iff] at hk
    simp only [HExpr.clean, Bool.and_eq_true] at hc
    simp only [HExpr.run, Cond.eval_erase k c j hk.1.1 hc.1, bind]
    cases hce : c.eval j with
    | error e => rfl
    | ok bv =>
      rw [hce] at hc
      cases bv
      · exact HExpr.run_erase k recur cl hr b j hk.2 hc.2
      · exact HExpr.run_erase k recur cl hr a j hk.1.2 hc.2

def Env.declaredKeys (E : Env) : List Name :=
  E.pkg.classes.flatMap (fun c => c.fields.map (·.wireS)) ++ (E.hooks ++ E.disamb).flatMap (fun h => h.2.keys)

def kFreshEnv (E : Env) (k : Name) : Bool :=
  noForbidExtra E.pkg && !(E.declaredKeys.contains k)

theorem Env.mem_declaredKeys {E : Env} {k : Name} : k ∈ E.declaredKeys ↔
    (∃ c ∈ E.pkg.classes, ∃ f ∈ c.fields, f.wireS = k) ∨ ∃ h ∈ E.hooks ++ E.disamb, k ∈ h.2.keys := by
  simp only [Env.declaredKeys, List.mem_append, List.mem_flatMap, List.mem_map]

theorem kFreshEnv_iff {E : Env} {k : Name} :
    kFreshEnv E k = true ↔ noForbidExtra E.pkg = true ∧ k ∉ E.declaredKeys := by
  simp [kFreshEnv]

theorem kFresh_class (E : Env) (k : Name) (h : kFreshEnv E k = true) (c : Name) (cl : Cls)
    (hc : E.pkg.findCls c = some cl) : cl.forbidExtra = false ∧ ∀ f ∈ cl.fields, (f.wireS == k) = false := by
  have hmem : cl ∈ E.pkg.classes := List.mem_of_find?_eq_some hc
  obtain ⟨h1, h2⟩ := kFreshEnv_iff.mp h
  exact ⟨noForbidExtra_cls h1 hmem, fun f hf => beq_eq_false_iff_ne.mpr fun hfk =>
    h2 (Env.mem_declaredKeys.mpr (.inl ⟨cl, hmem, f, hf, hfk⟩))⟩

theorem kFresh_prog (E : Env) (k : Name) (h : kFreshEnv E k = true) (ty : PyTy) (p : HExpr)
    (hp : E.hookFor ty = some p ∨ E.disambFor ty = some p) : (p.keys.contains k) = false := by
  refine Bool.eq_false_iff.mpr fun hc => (kFreshEnv_iff.mp h).2 (Env.mem_declaredKeys.mpr (.inr ?_))
  have hin := List.contains_iff_mem.mp hc
  simp only [Env.hookFor, Env.disambFor, Option.map_eq_some_iff] at hp
  rcases hp with ⟨q, hq, rfl⟩ | ⟨q, hq, rfl⟩
  · exact ⟨q, List.mem_append_left _ (List.mem_of_find?_eq_some hq), hin⟩
  · exact ⟨q, List.mem_append_right _ (List.mem_of_find?_eq_some hq), hin⟩

/-- **C15 (global).** -/
theorem C15_global (E : Env) (k : Name) (hE : kFreshEnv E k = true) :
    ∀ (n : Nat) (ty : PyTy) (j : Json), clean E k n ty j = true →
      structTy E n ty (eraseJ k j) = structTy E n ty j
  | 0, _, _, _ => rfl
  | n + 1, ty, j, hc => by
    have ih : ∀ t x, clean E k n t x = true → structTy E n t (eraseJ k x) = structTy E n t x := C15_global E k hE n
    have prog : ∀ h, E.hookFor ty = some h ∨ E.disambFor ty = some h → h.clean k (clean E k n) j = true →
        h.run (structTy E n) (eraseJ k j) = h.run (structTy E n) j :=
      fun h hp hc => HExpr.run_erase k _ _ ih h j (kFresh_prog E k hE ty h hp) hc
    -- `clean` and `structTy` are unfolded per constructor, after the case split: at a variable `ty` the unfolded terms are slow to check
    cases hh : E.hookFor ty with
    | some h =>
      simp only [clean, hh] at hc
      simp only [structTy, hh]
      exact prog h (.inl hh) hc
    | none =>
      cases ty with
      | cls c =>
        simp only [clean, hh] at hc
        simp only [structTy, hh]
        cases hf : E.pkg.findCls c with
        | none => rfl
        | some cl =>
          obtain ⟨hfe, hw⟩ := kFresh_class E k hE c cl hf
          cases j with
          | obj kvs =>
            simp only [hf, List.all_eq_true] at hc
            refine structCls_congr E cl hfe (fun f hm => ?_)
            have := hc f hm
            simp only [fieldVal, lookup_eraseKvs k f.wireS (hw f hm) kvs]
            cases hl : Json.lookup kvs f.wireS with
            | none => rfl
            | some x => exact ih f.ty x (by simpa only [hl] using this)
          | _ => rfl
      | seq t =>
        simp only [structTy, hh]
        cases j with
        | arr xs =>
          simp only [clean, hh, List.all_eq_true] at hc
          simp only [eraseJ, mapE_erase k _ xs (fun x hx => ih t x (hc x hx))]
        | _ => rfl
      | dict kt vt =>
        simp only [structTy, hh]
        cases j with
        | obj kvs =>
          simp only [clean, hh, Bool.and_eq_true, Bool.not_eq_true', List.all_eq_true] at hc
          simp only [eraseJ, eraseKvs_no_top k kvs hc.1, mapE_map]
          rw [mapE_congr _ (dictEntry (structTy E n) kt vt) kvs (fun kv hkv => by
            simp only [dictEntry, ih vt kv.2 (hc.2 kv hkv)])]
        | _ => rfl
      | tuple ts =>
        simp only [structTy, hh]
        cases j with
        | arr xs =>
          simp only [clean, hh, List.all_eq_true] at hc
          simp only [eraseJ, eraseL_eq_map, List.length_map, List.zip_map_right, mapE_map, Prod.map_fst, Prod.map_snd, id_eq]
          rw [mapE_congr _ (fun p => structTy E n p.1 p.2) (ts.zip xs) (fun p hp => ih p.1 p.2 (hc p hp))]
        | _ => rfl
      | union ts =>
        simp only [clean, hh] at hc
        simp only [structTy, hh]
        cases ho : PyTy.optionalOf ts with
        | some x =>
          simp only [ho] at hc
          cases j <;> first | rfl | exact ih x _ hc
        | none =>
          simp only [ho] at hc ⊢
          split
          · rename_i hall
            simp only [hall, if_true] at hc
            cases hd : E.disambFor (.union ts) with
            | none => rfl
            | some h => exact prog h (.inr hd) (by simpa only [hd] using hc)
          · rfl
      | _ => simp only [clean, hh] at hc; rw [eraseJ_of_kFree k j hc]

theorem kFresh_of_subset (E : Env) (names : List Name) (h1 : noForbidExtra E.pkg = true)
    (h2 : E.declaredKeys.all (fun w => names.contains w) = true) (k : Name) (hk : names.contains k = false) :
    kFreshEnv E k = true :=
  kFreshEnv_iff.mpr ⟨h1, fun hin => by rw [List.all_eq_true.mp h2 k hin] at hk; cases hk⟩

/-- `declaredKeys ⊆ names`, split into the class part (sliceable) and the program part -/
theorem declaredKeys_all (E : Env) (names : List Name)
    (h1 : E.pkg.classes.all (fun c => c.fields.all (fun f => names.contains f.wireS)) = true)
    (h2 : (E.hooks ++ E.disamb).all (fun h => h.2.keys.all (fun w => names.contains w)) = true) :
    E.declaredKeys.all (fun w => names.contains w) = true := by
  simp only [List.all_eq_true] at h1 h2 ⊢
  intro w hw
  rcases Env.mem_declaredKeys.mp hw with ⟨c, hc, f, hf, rfl⟩ | ⟨h, hh, hw⟩
  · exact h1 c hc f hf
  · exact h2 h hh w hw

theorem C15_env (E : Env) (names : List Name) (h1 : noForbidExtra E.pkg = true)
    (h2 : E.declaredKeys.all (fun w => names.contains w) = true) :
    ∀ (k : Name), names.contains k = false → ∀ (n : Nat) (ty : PyTy) (j : Json), clean E k n ty j = true →
      structTy E n ty (eraseJ k j) = structTy E n ty j :=
  fun k hk => C15_global E k (kFresh_of_subset E names h1 h2 k hk)

def eraseAll (ks : List Name) (j : Json) : Json := ks.foldl (fun acc k => eraseJ k acc) j

section Example
private def exPkg : Pkg := { (default : Pkg) with
  classes := [
    { name := n!"P", fields := [{ name := n!"line", wireS := n!"line", wireU := n!"line", ty := .int, omitS := false, omitU := false, dflt := .nothing, vld := .none }], forbidExtra := false },
    { name := n!"Q", fields := [
        { name := n!"items", wireS := n!"items", wireU := n!"items", ty := .seq (.cls n!"P"), omitS := false, omitU := false, dflt := .nothing, vld := .none },
        { name := n!"data", wireS := n!"data", wireU := n!"data", ty := .union [.any, .none], omitS := true, omitU := true, dflt := .none, vld := .none },
        { name := n!"m", wireS := n!"m", wireU := n!"m", ty := .union [.dict .str (.cls n!"P"), .none], omitS := true, omitU := true, dflt := .none, vld := .none }], forbidExtra := false }] }
private def exEnv : Env := { pkg := exPkg, hooks := [], disamb := [], vld := { int32 := fun _ => default, uint31 := fun _ => default } }
private def exIn : Json := .obj [(n!"zz", .int 1), (n!"items", .arr [.obj [(n!"line", .int 3), (n!"zz", .null)]]),
  (n!"m", .obj [(n!"a", .obj [(n!"zz", .str n!"x"), (n!"line", .int 4)])])]
-- the hypotheses are satisfiable: `zz` is fresh, sits at protocol-object nodes only …
example : kFreshEnv exEnv n!"zz" = true ∧ clean exEnv n!"zz" 8 (.cls n!"Q") exIn = true ∧ kFreeJ n!"zz" exIn = false := by decide +kernel
-- … and not when it sits under the Any-typed `data` or is a key of the map `m`
example : clean exEnv n!"zz" 8 (.cls n!"Q") (.obj [(n!"items", .arr []), (n!"data", .obj [(n!"zz", .int 1)])]) = false ∧
          clean exEnv n!"zz" 8 (.cls n!"Q") (.obj [(n!"items", .arr []), (n!"m", .obj [(n!"zz", .obj [(n!"line", .int 1)])])]) = false := by decide +kernel
end Example

end LspVerif
