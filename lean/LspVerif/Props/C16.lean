/-
  C16 — generation is a deterministic function of the model files.
  (1) sorting neutralises hash-order: permutations sort to the same list;
  (2) the output discipline "delete everything the plugin owns, then write what the model yields"
      makes the owned part of the output directory independent of its previous contents;
  (3) a generation that leaves the interpreter's state as it found it does not depend on earlier ones;
  (4) the table of accounted nondeterminism sites the regenerated scan is compared with.
-/
import LspVerif.Core.Name
namespace LspVerif.C16

/-- `sorted(set(...))`: whatever order the hash seed gives the set, the sorted list is the same. -/
theorem sort_perm {α} (le : α → α → Bool)
    (trans : ∀ a b c, le a b → le b c → le a c) (total : ∀ a b, le a b || le b a)
    (antisymm : ∀ a b, le a b → le b a → a = b)
    (l₁ l₂ : List α) (h : l₁.Perm l₂) : l₁.mergeSort le = l₂.mergeSort le :=
  ((List.mergeSort_perm l₁ le).trans h |>.trans (List.mergeSort_perm l₂ le).symm).eq_of_pairwise
    (fun a b _ _ => antisymm a b) (List.pairwise_mergeSort trans total l₁) (List.pairwise_mergeSort trans total l₂)

theorem sort_perm_nat (l₁ l₂ : List Nat) (h : l₁.Perm l₂) :
    l₁.mergeSort (fun a b => decide (a ≤ b)) = l₂.mergeSort (fun a b => decide (a ≤ b)) :=
  sort_perm _ (fun a b c => by simpa using @Nat.le_trans a b c) (fun a b => by simpa using Nat.le_total a b)
    (fun a b => by simpa using @Nat.le_antisymm a b) l₁ l₂ h

/-- An output directory: relative path ↦ content (both as names). -/
abbrev FS := List (Name × Name)

def runPlugin (owns : Name → Bool) (emit : FS) (fs : FS) : FS := fs.filter (fun f => !owns f.1) ++ emit

def ownedPart (owns : Name → Bool) (fs : FS) : FS := fs.filter (fun f => owns f.1)

theorem owned_indep_history (owns : Name → Bool) (emit fs : FS) (he : ∀ f ∈ emit, owns f.1 = true) :
    ownedPart owns (runPlugin owns emit fs) = emit := by
  rw [ownedPart, runPlugin, List.filter_append, List.filter_filter, List.filter_eq_self.2 he,
    List.filter_eq_nil_iff.2 fun a _ => by rw [Bool.and_not_self]; nofun]
  rfl

theorem owned_indep_history' (owns : Name → Bool) (emit fs₁ fs₂ : FS) (he : ∀ f ∈ emit, owns f.1 = true) :
    ownedPart owns (runPlugin owns emit fs₁) = ownedPart owns (runPlugin owns emit fs₂) := by
  rw [owned_indep_history owns emit fs₁ he, owned_indep_history owns emit fs₂ he]

theorem rerun_idempotent (owns : Name → Bool) (emit emit' fs : FS) (he : ∀ f ∈ emit, owns f.1 = true) :
    ownedPart owns (runPlugin owns emit (runPlugin owns emit' fs)) = emit :=
  owned_indep_history owns emit _ he

/-- A generation inside an interpreter reads and may update interpreter-level state (module-level containers, memo tables,
    mutable defaults).  If no generation changes that state — what the scan obligation establishes: no such site exists apart from
    the accounted constants — then the output for a model does not depend on which models were generated before it in the process. -/
theorem stateless_history_independent {σ M O : Type} (g : σ → M → O × σ) (h : ∀ s m, (g s m).2 = s) (s : σ) (ms : List M) (m : M) :
    (g (ms.foldl (fun s m' => (g s m').2) s) m).1 = (g s m).1 := by
  have hs : ms.foldl (fun s m' => (g s m').2) s = s :=
    ms.foldlRecOn (motive := (· = s)) _ rfl fun _ hb a _ => hb ▸ h s a
  rw [hs]

/-- Every nondeterminism site of generator/ that the design accounts for:
    (file, enclosing function, kind, how it is neutralised). -/
def accounted : List (Name × Name × Name × Name) := [
  -- model ids: uuid4 only ever in the converter of an `id_` attribute (any value, the default `None` included, becomes a fresh uuid) …
  (n!"generator/model.py", n!"<lambda>", n!"uuid", n!"id-attribute-default"),
  -- … which plugins use as dictionary keys (and in one error message), never in emitted text
  (n!"generator/plugins/rust/rust_commons.py", n!"add_type_info", n!"id_-read", n!"key"),
  (n!"generator/plugins/rust/rust_commons.py", n!"has_id", n!"id_-read", n!"key"),
  (n!"generator/plugins/rust/rust_commons.py", n!"add_type_info", n!"id_-read", n!"fstring"),
  (n!"generator/plugins/dotnet/dotnet_commons.py", n!"add_type_info", n!"id_-read", n!"key"),
  (n!"generator/plugins/dotnet/dotnet_commons.py", n!"has_id", n!"id_-read", n!"key"),
  (n!"generator/plugins/dotnet/dotnet_commons.py", n!"add_type_info", n!"id_-read", n!"fstring"),
  -- sets sorted before emission
  (n!"generator/plugins/python/utils.py", n!"_get_utility_code", n!"set", n!"sorted"),
  (n!"generator/plugins/rust/rust_commons.py", n!"generate_extra_types", n!"set", n!"sorted"),
  (n!"generator/plugins/dotnet/dotnet_helpers.py", n!"get_usings", n!"set", n!"sorted"),
  -- sets bound to a name and sorted where they are consumed (checked by the plugin runs under several hash seeds)
  (n!"generator/plugins/python/utils.py", n!"_get_utility_code", n!"set", n!"escapes-unsorted:Assign"),
  (n!"generator/plugins/python/utils.py", n!"_add_lsp_method_type", n!"set", n!"escapes-unsorted:Assign"),
  (n!"generator/plugins/dotnet/dotnet_classes.py", n!"get_types_for_usings", n!"set", n!"escapes-unsorted:Return"),
  -- membership only
  (n!"generator/plugins/python/utils.py", n!"_add_requests", n!"set", n!"membership"),
  -- directory listings: order-irrelevant deletion / one distinct target per listed file
  (n!"generator/plugins/testdata/testdata_utils.py", n!"cleanup", n!"dirlist", n!"loop-deletes-each"),
  (n!"generator/plugins/dotnet/dotnet_utils.py", n!"cleanup", n!"dirlist", n!"loop-deletes-each"),
  (n!"generator/plugins/dotnet/dotnet_utils.py", n!"copy_custom_classes", n!"dirlist", n!"loop-writes-distinct-file-each"),
  -- interpreter-level state (kinds module-state, module-object, memo-decorator, mutable-default): the one module-level object that is
  -- not a compiled regex / logger / frozenset is a constant structure appended to the model of each generation; nothing mutates it
  (n!"generator/plugins/testdata/testdata_generator.py", n!"<module>", n!"module-object", n!"model.Structure")
]

/-- ways of consuming a hash-ordered container whose result cannot depend on the iteration order, wherever they occur
    (`neutralised-at-every-use-via-local-name`: bound once to a local name every read of which is sorted / a membership test / len … — x_nondet.locally_neutralised) -/
def safeUses : List Name := [n!"sorted", n!"membership", n!"membership-only-via-name", n!"neutralised-at-every-use-via-local-name", n!"order-insensitive-len", n!"order-insensitive-any",
  n!"order-insensitive-all", n!"order-insensitive-bool", n!"order-insensitive-min", n!"order-insensitive-max", n!"order-insensitive-sum"]

def sitesAccounted (sites : List (Name × Name × Name × Name)) : Bool :=
  sites.all (fun s => accounted.contains s || ((s.2.2.1 == n!"set") && safeUses.contains s.2.2.2))

def expectedDisciplines : List (Name × Name × Name) := [
  (n!"dotnet", n!"cleanup-before-write", n!"yes"), (n!"dotnet", n!"cleanup-glob", n!"*.cs"), (n!"dotnet", n!"writes-suffix", n!".cs"),
  (n!"python", n!"cleanup-before-write", n!"none"), (n!"python", n!"writes-fixed", n!"types.py"),
  (n!"rust", n!"cleanup-before-write", n!"none"), (n!"rust", n!"writes-fixed", n!"src/lib.rs"),
  (n!"testdata", n!"cleanup-before-write", n!"yes"), (n!"testdata", n!"cleanup-glob", n!"*.json"), (n!"testdata", n!"writes-suffix", n!".json")
]

def disciplinesOK (d : List (Name × Name × Name)) : Bool :=
  expectedDisciplines.all (fun e => d.contains e) && d.all (fun x => expectedDisciplines.contains x)

end LspVerif.C16
