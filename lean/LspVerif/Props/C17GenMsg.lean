/-
  C17, message level: the True-labelled vectors of `genRequest` / `genNotification` are valid messages, those of
  `genResponse` are valid up to the `error` member next to `result` (finding F1), and whenever generation succeeds
  the message has a True-labelled vector (the proofs take the first).
-/
import LspVerif.Props.C17GenType
namespace LspVerif.TestGen
open LspVerif

theorem idTyJ_valid (M : Model) (n : Nat) (j : Json) : validTy M (n + 2) idTyJ j = (validBase .integer j || validBase .string j) := by
  simp [idTyJ, validTy_or, validTy_base]

theorem idVariants_true : ∀ p ∈ idVariants, p.1 = true → (validBase .integer p.2 || validBase .string p.2) = true := by
  decide

/-- the shape of `requestVariants` and `responseVariants`: an envelope `W id` per id variant, then False-labelled ones -/
theorem idEnv_true {W : Json → List (Name × Json)} {rest : List (Bool × List (Name × Json))} (hrest : rest.any (·.1) = false)
    {e : Bool × List (Name × Json)} (he : e ∈ idVariants.map (fun p => (p.1, W p.2)) ++ rest) (ht : e.1 = true) :
    ∃ idv, e.2 = W idv ∧ ∀ (M : Model) (n : Nat), validTy M (n + 2) idTyJ idv = true := by
  rcases List.mem_append.mp he with he | he
  · obtain ⟨p, hp, rfl⟩ := List.mem_map.mp he
    exact ⟨p.2, rfl, fun M n => (idTyJ_valid M n p.2).trans (idVariants_true p hp ht)⟩
  · exact absurd ht (List.any_eq_false.mp hrest e he)

theorem rows_mapM_head {α β} {F : List α → Option β} {lists rs : List (List α)} {out : List β} (hrs : rows lists = some rs)
    (h : rs.mapM F = some out) : ∃ row m, F2 (fun l x => l.head? = some x) lists row ∧ F row = some m ∧ m ∈ out := by
  cases mapM_spec h with
  | nil => exact absurd rfl (rows_get hrs).1
  | cons hm _ => exact ⟨_, _, rows_head hrs rfl, hm, List.mem_cons_self⟩

theorem genOpt_good (M : Model) (hM : modelOK M = true) (o : Option Ty) (hok : ∀ t, o = some t → tyOK t = true) (g : Vs)
    (h : genOpt M o = some g) : HeadTrue g ∧ (o = none → ∀ x ∈ g, x.2 = GV.ignore) ∧ ∀ t, o = some t → Sound M genFuel t g := by
  cases o with
  | none => cases h; exact ⟨.cons, fun _ x hx => by cases List.mem_singleton.mp hx; rfl, nofun⟩
  | some t =>
    obtain ⟨hs, hh⟩ := gen_good M hM genFuel [] t g (hok t rfl) h
    exact ⟨hh, nofun, fun _ ht => by cases ht; exact hs⟩

theorem withParams_true {M : Model} (hM : modelOK M = true) {o : Option Ty} (hok : ∀ t, o = some t → tyOK t = true)
    {envs : List (Bool × List (Name × Json))} {g : Vs} {out : List (Bool × Json)} (hg : genOpt M o = some g)
    (h : withParams envs g = some out) {m : Bool × Json} (hm : m ∈ out) (hl : m.1 = true) :
    ∃ e ∈ envs, e.1 = true ∧ (o = none → m.2 = .obj e.2) ∧
      ∀ t, o = some t → ∃ p, validTy M (genFuel + 1) t p = true ∧ m.2 = .obj (dictUpdate e.2 [(n!"params", p)]) := by
  obtain ⟨rs, hrs, h⟩ := Option.bind_eq_some_iff.mp h
  obtain ⟨row, hrow, hrm⟩ := (mapM_spec h).mem_right m hm
  -- `hrs` has `rows` of a literal two-element list (three in `genResponse`): the pattern takes `F2` over that list apart,
  -- one `cons` per member
  obtain _ | ⟨ha, _ | ⟨hb, _ | _⟩⟩ := rows_spec _ rs hrs row hrow
  obtain ⟨e, he, rfl⟩ := List.mem_map.mp ha
  obtain ⟨x, hx, rfl⟩ := List.mem_map.mp hb
  obtain ⟨_, hnone, hsome⟩ := genOpt_good M hM o hok g hg
  cases o with
  | none =>
    rw [hnone rfl x hx] at hrm
    cases hrm
    exact ⟨e, he, (Bool.and_eq_true_iff.mp hl).1, fun _ => rfl, nofun⟩
  | some t =>
    obtain ⟨_, p, rfl, hval⟩ := (hsome t rfl).mem hx
    cases hrm
    have hl := Bool.and_eq_true_iff.mp hl
    exact ⟨e, he, hl.1, nofun, fun _ ht => by cases ht; exact ⟨p, hval hl.2, rfl⟩⟩

theorem withParams_head_true {M : Model} (hM : modelOK M = true) {o : Option Ty} (hok : ∀ t, o = some t → tyOK t = true)
    {envs : List (Bool × List (Name × Json))} {g : Vs} {out : List (Bool × Json)} (hg : genOpt M o = some g)
    (h : withParams envs g = some out) (he : ∀ e, envs.head? = some e → e.1 = true) : ∃ m ∈ out, m.1 = true := by
  obtain ⟨rs, hrs, h⟩ := Option.bind_eq_some_iff.mp h
  obtain ⟨row, m, _ | ⟨ha, _ | ⟨hb, _ | _⟩⟩, hrm, hm⟩ := rows_mapM_head hrs h
  rw [List.head?_map] at ha hb
  obtain ⟨e, he0, rfl⟩ := Option.map_eq_some_iff.mp ha
  obtain ⟨x, hx0, rfl⟩ := Option.map_eq_some_iff.mp hb
  have hl : (e.1 && x.1) = true := Bool.and_eq_true_iff.mpr ⟨he e he0, (genOpt_good M hM o hok g hg).1 x hx0⟩
  cases hx2 : x.2 <;> rw [hx2] at hrm <;> cases hrm <;> exact ⟨_, hm, hl⟩

/-- a message envelope is a literal read at `vFuel`; its members (`params`, `result`, `id`) are read at `vFuel - 1 = genFuel + 1`,
    the fuel at which `gen_sound` speaks of what `genTy … genFuel` yields -/
theorem validTy_envelope (M : Model) (props : List (Name × Bool × Ty)) (kvs : List (Name × Json)) :
    validTy M vFuel (.lit props) (.obj kvs) = validProps (validTy M (genFuel + 1)) props kvs := rfl

theorem request_sound (M : Model) (hM : modelOK M = true) (r : Request) (hok : ∀ t, r.params = some t → tyOK t = true)
    (out : List (Bool × Json)) (h : genRequest M r = some out) : ∀ m ∈ out, m.1 = true → validRequest M r m.2 = true := by
  obtain ⟨g, hg, h⟩ := Option.bind_eq_some_iff.mp h
  intro m hm hlabel
  obtain ⟨e, he, he1, hm2⟩ := withParams_true hM hok hg h hm hlabel
  obtain ⟨idv, he2, hidv⟩ := idEnv_true (W := fun idv => [jsonrpc, (n!"id", idv), (n!"method", .str r.method)]) rfl he he1
  unfold validRequest
  cases hp : r.params with
  | none =>
    rw [hm2.1 hp, he2, validTy_envelope]
    exact validProps_exact (.cons ⟨rfl, strLit_valid⟩ (.cons ⟨rfl, hidv M _⟩ (.cons ⟨rfl, strLit_valid⟩ .nil))) rfl
  | some t =>
    obtain ⟨p, hv, hm2⟩ := hm2.2 t hp
    rw [hm2, he2, validTy_envelope]
    exact validProps_exact (.cons ⟨rfl, strLit_valid⟩ (.cons ⟨rfl, hidv M _⟩ (.cons ⟨rfl, strLit_valid⟩ (.cons ⟨rfl, hv⟩ .nil)))) rfl

theorem notification_sound (M : Model) (hM : modelOK M = true) (r : Notification) (hok : ∀ t, r.params = some t → tyOK t = true)
    (out : List (Bool × Json)) (h : genNotification M r = some out) : ∀ m ∈ out, m.1 = true → validNotification M r m.2 = true := by
  obtain ⟨g, hg, h⟩ := Option.bind_eq_some_iff.mp h
  intro m hm hlabel
  obtain ⟨e, he, he1, hm2⟩ := withParams_true hM hok hg h hm hlabel
  have he2 : e.2 = [jsonrpc, (n!"method", .str r.method)] := by
    rcases List.mem_cons.mp he with rfl | he
    · rfl
    · cases List.mem_singleton.mp he
      cases he1
  unfold validNotification
  cases hp : r.params with
  | none =>
    rw [hm2.1 hp, he2, validTy_envelope]
    exact validProps_exact (.cons ⟨rfl, strLit_valid⟩ (.cons ⟨rfl, strLit_valid⟩ .nil)) rfl
  | some t =>
    obtain ⟨p, hv, hm2⟩ := hm2.2 t hp
    rw [hm2, he2, validTy_envelope]
    exact validProps_exact (.cons ⟨rfl, strLit_valid⟩ (.cons ⟨rfl, strLit_valid⟩ (.cons ⟨rfl, hv⟩ .nil))) rfl

theorem response_result_sound (M : Model) (hM : modelOK M = true) (r : Request) (hok : tyOK r.result = true) (g : Vs)
    (h : genTy M genFuel [] r.result = some g) : ∀ x ∈ g, ∃ p, x.2 = GV.val p ∧ (x.1 = true → validTy M (genFuel + 1) r.result p = true) :=
  gen_sound M hM genFuel [] r.result g hok h

/-- True-labelled response vectors: the envelope with the `result` member is a valid response message, and the `error` member the
    generator puts next to it (recorded finding F1: a response carries result *or* error) is a valid ResponseError -/
theorem response_sound_partial (M : Model) (hM : modelOK M = true) (r : Request) (hok : tyOK r.result = true)
    (out : List (Bool × Json)) (h : genResponse M r = some out) : ∀ m ∈ out, m.1 = true →
    ∃ base x e, m.2 = Json.obj (base ++ [(n!"result", x), (n!"error", e)]) ∧ validResponse M r (.obj (base ++ [(n!"result", x)])) = true ∧
      validTy M 59 (.ref n!"ResponseError") e = true := by
  obtain ⟨res, hres, h⟩ := Option.bind_eq_some_iff.mp h
  obtain ⟨err, herr, h⟩ := Option.bind_eq_some_iff.mp h
  obtain ⟨rs, hrs, h⟩ := Option.bind_eq_some_iff.mp h
  intro m hm hlabel
  obtain ⟨row, hrow, hrm⟩ := (mapM_spec h).mem_right m hm
  obtain _ | ⟨ha, _ | ⟨hb, _ | ⟨hc, _ | _⟩⟩⟩ := rows_spec _ rs hrs row hrow
  obtain ⟨e0, he0, rfl⟩ := List.mem_map.mp ha
  obtain ⟨x0, hx0, rfl⟩ := List.mem_map.mp hb
  obtain ⟨y0, hy0, rfl⟩ := List.mem_map.mp hc
  obtain ⟨_, x, rfl, hxval⟩ := (gen_sound M hM genFuel [] r.result res hok hres).mem hx0
  obtain ⟨_, e, rfl, heval⟩ := (gen_sound M hM genFuel [] (.ref n!"ResponseError") err rfl herr).mem hy0
  cases hrm
  simp only [Bool.and_eq_true] at hlabel
  obtain ⟨idv, he2, hidv⟩ := idEnv_true (W := fun idv => [jsonrpc, (n!"id", idv)]) rfl he0 hlabel.1.1
  refine ⟨e0.2, x, e, by rw [he2]; rfl, ?_, heval hlabel.2⟩
  rw [he2, validResponse, validTy_envelope]
  exact validProps_exact (.cons ⟨rfl, strLit_valid⟩ (.cons ⟨rfl, hidv M _⟩ (.cons ⟨rfl, hxval hlabel.1.2⟩ .nil))) rfl

/-- non-vacuity: `modelOK`, `tyOK` and a successful `genTy` hold together -/
example : (genTy ⟨"t", [], [], [], [], []⟩ 3 [] (.array (.base .integer))).isSome = true ∧ modelOK ⟨"t", [], [], [], [], []⟩ = true ∧
    tyOK (.array (.base .integer)) = true := by decide +kernel

theorem request_has_true_vector (M : Model) (hM : modelOK M = true) (r : Request) (hok : ∀ t, r.params = some t → tyOK t = true)
    (out : List (Bool × Json)) (h : genRequest M r = some out) : ∃ m ∈ out, m.1 = true ∧ validRequest M r m.2 = true := by
  obtain ⟨g, hg, h'⟩ := Option.bind_eq_some_iff.mp h
  obtain ⟨m, hm, hl⟩ := withParams_head_true hM hok hg h' fun e he => by cases he; rfl
  exact ⟨m, hm, hl, request_sound M hM r hok out h m hm hl⟩

theorem notification_has_true_vector (M : Model) (hM : modelOK M = true) (r : Notification) (hok : ∀ t, r.params = some t → tyOK t = true)
    (out : List (Bool × Json)) (h : genNotification M r = some out) : ∃ m ∈ out, m.1 = true ∧ validNotification M r m.2 = true := by
  obtain ⟨g, hg, h'⟩ := Option.bind_eq_some_iff.mp h
  obtain ⟨m, hm, hl⟩ := withParams_head_true hM hok hg h' fun e he => by cases he; rfl
  exact ⟨m, hm, hl, notification_sound M hM r hok out h m hm hl⟩

theorem response_has_true_vector (M : Model) (hM : modelOK M = true) (r : Request) (hok : tyOK r.result = true)
    (out : List (Bool × Json)) (h : genResponse M r = some out) : ∃ m ∈ out, m.1 = true := by
  obtain ⟨res, hres, h⟩ := Option.bind_eq_some_iff.mp h
  obtain ⟨err, herr, h⟩ := Option.bind_eq_some_iff.mp h
  obtain ⟨rs, hrs, h⟩ := Option.bind_eq_some_iff.mp h
  obtain ⟨row, m, _ | ⟨ha, _ | ⟨hb, _ | ⟨hc, _ | _⟩⟩⟩, hrm, hm⟩ := rows_mapM_head hrs h
  rw [List.head?_map] at ha hb hc
  obtain ⟨e, he0, rfl⟩ := Option.map_eq_some_iff.mp ha
  obtain ⟨x, hx0, rfl⟩ := Option.map_eq_some_iff.mp hb
  obtain ⟨y, hy0, rfl⟩ := Option.map_eq_some_iff.mp hc
  obtain ⟨sr, hr⟩ := gen_good M hM genFuel [] r.result res hok hres
  obtain ⟨se, hev⟩ := gen_good M hM genFuel [] (.ref n!"ResponseError") err rfl herr
  obtain ⟨_, jx, rfl, _⟩ := sr.mem (List.mem_of_mem_head? hx0)
  obtain ⟨_, jy, rfl, _⟩ := se.mem (List.mem_of_mem_head? hy0)
  cases hrm
  cases he0
  exact ⟨_, hm, by rw [hr _ hx0, hev _ hy0]; rfl⟩

end LspVerif.TestGen
