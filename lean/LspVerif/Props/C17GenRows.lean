/-
  C17, list level: what `rows` (the model of `zip(*extend_all(..))`) yields, and the validity of the JSON values the
  generator builds from a row: `tuple_valid`, `obj_valid`.
-/
import LspVerif.Spec.TestGen
import LspVerif.Props.Lists
namespace LspVerif.TestGen
open LspVerif

def pick {α} (k : Nat) (l : List α) : Option α := l[k % l.length]?

theorem pick_zero {α} (l : List α) : pick 0 l = l.head? := by rw [pick, Nat.zero_mod, List.head?_eq_getElem?]

theorem le_foldl_max {α} : ∀ (lists : List (List α)) (m : Nat), m ≤ lists.foldl (fun m l => max m l.length) m
  | [], _ => Nat.le_refl _
  | _ :: ls, _ => Nat.le_trans (Nat.le_max_left ..) (le_foldl_max ls _)

theorem rows_get {α} {lists rs : List (List α)} (h : rows lists = some rs) :
    rs ≠ [] ∧ ∀ k row, rs[k]? = some row → F2 (fun l x => pick k l = some x) lists row := by
  unfold rows at h
  split at h
  · cases h
  · rename_i hc
    simp only [Bool.or_eq_true, not_or, Bool.not_eq_true, List.any_eq_false, List.isEmpty_eq_false_iff] at hc
    have hpos : ∀ l ∈ lists, 0 < l.length := fun l hl => List.length_pos_iff.mpr (hc.2 l hl)
    cases h
    refine ⟨?_, fun k row hk => ?_⟩
    · cases lists with
      | nil => exact absurd rfl hc.1
      | cons l ls =>
        have h1 := hpos l List.mem_cons_self
        have h2 := le_foldl_max ls (max 0 l.length)
        simp only [List.foldl_cons, ne_eq, List.map_eq_nil_iff, List.range_eq_nil]
        omega
    · simp only [List.getElem?_map, Option.map_eq_some_iff] at hk
      obtain ⟨k', hk', rfl⟩ := hk
      obtain ⟨_, rfl⟩ := List.getElem?_eq_some_iff.mp hk'
      rw [List.getElem_range]
      exact F2.filterMap fun l hl => ⟨_, List.getElem?_eq_getElem (Nat.mod_lt _ (hpos l hl))⟩

theorem rows_spec {α} (lists : List (List α)) (rs : List (List α)) (h : rows lists = some rs) :
    ∀ row ∈ rs, F2 (fun l x => x ∈ l) lists row := by
  intro row hrow
  obtain ⟨k, hk⟩ := List.getElem?_of_mem hrow
  exact ((rows_get h).2 k row hk).imp fun _ _ => List.mem_of_getElem?

theorem rows_nonempty {α} (lists rs : List (List α)) (h : rows lists = some rs) : rs ≠ [] :=
  (rows_get h).1

theorem rows_head {α} {lists rs : List (List α)} (h : rows lists = some rs) {row : List α} (hrow : rs.head? = some row) :
    F2 (fun l x => l.head? = some x) lists row := by
  rw [List.head?_eq_getElem?] at hrow
  exact ((rows_get h).2 0 row hrow).imp fun _ _ hx => by rwa [pick_zero] at hx

theorem rowValid_cons_iff {x : Bool × GV} {xs : List (Bool × GV)} : rowValid (x :: xs) = true ↔ x.1 = true ∧ rowValid xs = true := by
  rw [rowValid, List.all_cons, Bool.and_eq_true]; rfl

theorem tuple_valid (recur : Ty → Json → Bool) : ∀ (ts : List Ty) (row : List (Bool × GV)),
    F2 (fun t x => ∃ j, x.2 = GV.val j ∧ (x.1 = true → recur t j = true)) ts row → rowValid row = true →
    ((row.filterMap (fun p => match p.2 with | .val j => some j | .ignore => none)).length == ts.length &&
     (ts.zip (row.filterMap (fun p => match p.2 with | .val j => some j | .ignore => none))).all (fun p => recur p.1 p.2)) = true := by
  intro ts row h
  induction h with
  | nil => exact fun _ => rfl
  | @cons t x ts xs h _ ih =>
    intro hv
    obtain ⟨b, gv⟩ := x
    obtain ⟨j, hj, hval⟩ := h
    cases hj
    obtain ⟨hb, hv'⟩ := rowValid_cons_iff.mp hv
    have ih := ih hv'
    simp only [Bool.and_eq_true, beq_iff_eq] at ih ⊢
    exact ⟨congrArg (· + 1) ih.1, Bool.and_eq_true_iff.mpr ⟨hval hb, ih.2⟩⟩

def kvsOf (names : List Name) (row : List (Bool × GV)) : List (Name × Json) :=
  (names.zip row).filterMap (fun p => match p.2.2 with | .val j => some (p.1, j) | .ignore => none)

theorem objOfRow_eq (names : List Name) (row : List (Bool × GV)) : objOfRow names row = .obj (dictOf (kvsOf names row)) := rfl

theorem kvsOf_val (n : Name) (ns : List Name) (b : Bool) (j : Json) (xs : List (Bool × GV)) :
    kvsOf (n :: ns) ((b, .val j) :: xs) = (n, j) :: kvsOf ns xs := rfl
theorem kvsOf_ignore (n : Name) (ns : List Name) (b : Bool) (xs : List (Bool × GV)) :
    kvsOf (n :: ns) ((b, .ignore) :: xs) = kvsOf ns xs := rfl

theorem dictUpdate_fresh (l : List (Name × Json)) : ∀ acc : List (Name × Json), namesNodup (l.map (·.1)) = true →
    (∀ kv ∈ l, ∀ a ∈ acc, a.1 ≠ kv.1) → dictUpdate acc l = acc ++ l := by
  induction l with
  | nil => exact fun acc _ _ => (List.append_nil acc).symm
  | cons kv l ih =>
    intro acc hn hf
    rw [List.map_cons, namesNodup_cons_iff] at hn
    have hnot : acc.any (fun a => a.1 == kv.1) = false :=
      List.any_eq_false.mpr fun a ha h => hf kv List.mem_cons_self a ha (beq_iff_eq.mp h)
    have step : dictSet acc kv.1 kv.2 = acc ++ [kv] := by rw [dictSet, hnot]; rfl
    show dictUpdate (dictSet acc kv.1 kv.2) l = _
    rw [step, ih _ hn.2, List.append_assoc, List.singleton_append]
    intro kv' hkv' a ha
    rcases List.mem_append.mp ha with ha | ha
    · exact hf kv' (List.mem_cons_of_mem _ hkv') a ha
    · cases List.mem_singleton.mp ha
      exact fun heq => hn.1 (heq ▸ List.mem_map_of_mem hkv')

theorem dictOf_nodup (l : List (Name × Json)) (h : namesNodup (l.map (·.1)) = true) : dictOf l = l :=
  dictUpdate_fresh l [] h fun _ _ _ ha => nomatch ha

def EntryOK (recur : Ty → Json → Bool) (p : Name × Bool × Ty) (x : Bool × GV) : Prop :=
  (x.2 = GV.ignore → p.2.1 = true) ∧ (∀ j, x.2 = GV.val j → x.1 = true → recur p.2.2 j = true)

theorem row_obj (recur : Ty → Json → Bool) {props : List (Name × Bool × Ty)} {row : List (Bool × GV)}
    (h : F2 (EntryOK recur) props row) (hn : namesNodup (props.map (·.1)) = true) (hv : rowValid row = true) :
    (∀ kv ∈ kvsOf (props.map (·.1)) row, kv.1 ∈ props.map (·.1)) ∧ namesNodup ((kvsOf (props.map (·.1)) row).map (·.1)) = true ∧
    ∀ p ∈ props, (match Json.lookup (kvsOf (props.map (·.1)) row) p.1 with | some x => recur p.2.2 x | none => p.2.1) = true := by
  induction h with
  | nil => exact ⟨nofun, rfl, nofun⟩
  | @cons p0 x ps xs h0 _ ih =>
    obtain ⟨b, gv⟩ := x
    rw [List.map_cons, namesNodup_cons_iff] at hn
    obtain ⟨hb, hv'⟩ := rowValid_cons_iff.mp hv
    obtain ⟨hk, hnd, hl⟩ := ih hn.2 hv'
    have hfresh : ∀ kv ∈ kvsOf (ps.map (·.1)) xs, kv.1 ≠ p0.1 := fun kv hkv heq => hn.1 (heq ▸ hk kv hkv)
    rw [List.map_cons]
    cases gv with
    | ignore =>
      rw [kvsOf_ignore]
      refine ⟨fun kv hkv => List.mem_cons_of_mem _ (hk kv hkv), hnd, List.forall_mem_cons.mpr ⟨?_, hl⟩⟩
      rw [lookup_eq_none_iff.mpr hfresh]
      exact h0.1 rfl
    | val j =>
      rw [kvsOf_val, List.map_cons, namesNodup_cons_iff]
      refine ⟨List.forall_mem_cons.mpr ⟨List.mem_cons_self, fun kv hkv => List.mem_cons_of_mem _ (hk kv hkv)⟩,
        ⟨fun hm => let ⟨kv, hkv, heq⟩ := List.mem_map.mp hm; hfresh kv hkv heq, hnd⟩, List.forall_mem_cons.mpr ⟨?_, fun p hp => ?_⟩⟩
      · rw [Json.lookup_cons_self]
        exact h0.2 j rfl hb
      · have hne : p0.1 ≠ p.1 := fun heq => hn.1 (heq ▸ List.mem_map_of_mem hp)
        rw [Json.lookup_cons_ne hne]
        exact hl p hp

theorem kvs_valid (recur : Ty → Json → Bool) {props : List (Name × Bool × Ty)} {row : List (Bool × GV)}
    (h : F2 (EntryOK recur) props row) (hn : namesNodup (props.map (·.1)) = true) (hv : rowValid row = true) :
    validProps recur props (kvsOf (props.map (·.1)) row) = true := by
  obtain ⟨hk, _, hl⟩ := row_obj recur h hn hv
  unfold validProps
  split
  · rfl
  · simp only [Bool.and_eq_true, List.all_eq_true, List.any_eq_true, beq_iff_eq]
    refine ⟨fun kv hkv => ?_, fun p hp => ?_⟩
    · obtain ⟨p, hp, hpn⟩ := List.mem_map.mp (hk kv hkv)
      exact ⟨p, hp, hpn⟩
    · exact hl p hp

theorem obj_valid (recur : Ty → Json → Bool) (props : List (Name × Bool × Ty)) (row : List (Bool × GV))
    (h : F2 (EntryOK recur) props row) (hn : namesNodup (props.map (·.1)) = true) (hv : rowValid row = true) :
    validProps recur props (dictOf (kvsOf (props.map (·.1)) row)) = true := by
  rw [dictOf_nodup _ (row_obj recur h hn hv).2.1]
  exact kvs_valid recur h hn hv

/-- for the envelope objects of C17GenMsg: exactly the declared members, in order -/
theorem validProps_exact {recur : Ty → Json → Bool} {props : List (Name × Bool × Ty)} {kvs : List (Name × Json)}
    (h : F2 (fun p kv => kv.1 = p.1 ∧ recur p.2.2 kv.2 = true) props kvs) (hn : namesNodup (props.map (·.1)) = true) :
    validProps recur props kvs = true := by
  have hk : kvs = kvsOf (props.map (·.1)) (kvs.map fun kv => (true, GV.val kv.2)) ∧
      F2 (EntryOK recur) props (kvs.map fun kv => (true, GV.val kv.2)) := by
    induction h with
    | nil => exact ⟨rfl, .nil⟩
    | @cons p kv _ _ h _ ih =>
      obtain ⟨k, x⟩ := kv
      cases h.1
      obtain ⟨e, r⟩ := ih (namesNodup_cons_iff.mp hn).2
      exact ⟨congrArg _ e, .cons ⟨nofun, fun j hj _ => by cases hj; exact h.2⟩ r⟩
  have hv : rowValid (kvs.map fun kv => (true, GV.val kv.2)) = true :=
    List.all_eq_true.mpr fun x hx => by obtain ⟨_, _, rfl⟩ := List.mem_map.mp hx; rfl
  rw [hk.1]
  exact kvs_valid recur hk.2 hn hv

end LspVerif.TestGen
