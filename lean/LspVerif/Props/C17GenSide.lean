/-
  C17: the decidable side conditions of the label-soundness theorems (`tyOK` on a type, `modelOK` on a metamodel,
  kernel-evaluated per run), and what `modelOK` says about a reference that `genTy` resolves.
-/
import LspVerif.Spec.TestGen
import LspVerif.Props.Lists
namespace LspVerif.TestGen
open LspVerif

mutual
/-- no `and` inside (`gen_good` has no case for the merged dicts of `generate_for_and`), literal property names distinct -/
def tyOK : Ty → Bool
  | .and _ => false
  | .array e => tyOK e
  | .map k x => tyOK k && tyOK x
  | .or ts => tyOKL ts
  | .tuple ts => tyOKL ts
  | .lit ps => namesNodup (ps.map (·.1)) && tyOKP ps
  | _ => true
def tyOKL : List Ty → Bool
  | [] => true
  | t :: ts => tyOK t && tyOKL ts
def tyOKP : List (Name × Bool × Ty) → Bool
  | [] => true
  | (_, _, t) :: ps => tyOK t && tyOKP ps
end

theorem tyOKL_mem : ∀ {ts : List Ty}, tyOKL ts = true → ∀ t ∈ ts, tyOK t = true
  | [], _, _, h => by cases h
  | t :: ts, h, x, hx => by
    simp only [tyOKL, Bool.and_eq_true] at h
    rcases List.mem_cons.mp hx with rfl | hx
    · exact h.1
    · exact tyOKL_mem h.2 x hx

theorem tyOKP_mem : ∀ {ps : List (Name × Bool × Ty)}, tyOKP ps = true → ∀ p ∈ ps, tyOK p.2.2 = true
  | [], _, _, h => by cases h
  | (_, _, t) :: ps, h, x, hx => by
    simp only [tyOKP, Bool.and_eq_true] at h
    rcases List.mem_cons.mp hx with rfl | hx
    · exact h.1
    · exact tyOKP_mem h.2 x hx

/-- The generator's own flattening (`get_all_properties`) gives the flattened property list `validTy` checks against; the names are
    distinct (the dict built from a row keeps every entry); no `and` in the types; and no enumeration has the structure's name:
    `validTy` looks a reference up enum → struct → alias, `genTy` struct → alias → enum (`generate_for_reference`), and they agree
    only if no enumeration shares the name. -/
def structOK (M : Model) (s : Struct) : Bool :=
  match allProps M propFuel s with
  | none => false
  | some ps => Ty.beqProps (propsOf ps) (propsOf (flatten M s)) && namesNodup (ps.map (·.name)) && tyOKP (propsOf ps) &&
               (M.findEnum s.name).isNone

/-- `enum.values[0]` exists; under `supportsCustomValues`, where `validTy` only checks the base type, the first value and the
    generator's custom value (`12345` / `"testCustomValue"`, labelled True there) are of that base. -/
def enumOK (e : Enum) : Bool :=
  match e.values.head? with
  | none => false
  | some e0 => match e0.value with
    | .i i => !e.custom || (validBase e.base (.int i) && validBase e.base (.int 12345))
    | .s s => !e.custom || (validBase e.base (.str s) && validBase e.base (.str n!"testCustomValue"))

def isMapTy : Ty → Bool
  | .map _ _ => true
  | _ => false
def isArrayTy : Ty → Bool
  | .array _ => true
  | _ => false

/-- No `and` inside, no enumeration of the same name (see `structOK`), and `LSPObject` a map, `LSPArray` an array: the generator
    re-labels every variant of these two True and `validTy` accepts any object / array there, so validity must follow from the
    shape alone (`gen_map_shape`, `gen_array_shape`). -/
def aliasOK (M : Model) (a : Alias) : Bool :=
  tyOK a.ty && (M.findEnum a.name).isNone &&
  (a.name != n!"LSPObject" || isMapTy a.ty) && (a.name != n!"LSPArray" || isArrayTy a.ty)

/-- the names `validTy` decides before any lookup; a structure or enumeration of such a name would be generated as what it is -/
def special (r : Name) : Bool := r == n!"LSPAny" || r == n!"LSPObject" || r == n!"LSPArray"

/-- the hypothesis on the metamodel in C17GenType and C17GenMsg; `decide +kernel` per run, for the committed and for an evolved
    metamodel (tools/props/c17.py) -/
def modelOK (M : Model) : Bool :=
  M.structures.all (fun s => structOK M s && !special s.name) && M.enumerations.all (fun e => enumOK e && !special e.name) && M.aliases.all (aliasOK M)

theorem isMapTy_inv {t : Ty} (h : isMapTy t = true) : ∃ k x, t = .map k x := by
  cases t <;> first | exact ⟨_, _, rfl⟩ | cases h

theorem isArrayTy_inv {t : Ty} (h : isArrayTy t = true) : ∃ e, t = .array e := by
  cases t <;> first | exact ⟨_, rfl⟩ | cases h

/-- By the functional induction principle of the three comparison functions: one case per defining equation (the diagonal
    ones unfold by `rfl`), so no quadratic case split over pairs of constructors.  Cases 1–12 are `Ty.beq` (in the order of
    its equations; 4 is `map`), 13–15 `Ty.beqList`, 16–18 `Ty.beqProps`; 12, 15, 18 are the catch-alls. -/
theorem Ty.beq_sound : (∀ a b : Ty, Ty.beq a b = true → a = b) ∧
    (∀ a b : List (Name × Bool × Ty), Ty.beqProps a b = true → a = b) ∧ (∀ xs ys : List Ty, Ty.beqList xs ys = true → xs = ys) := by
  apply Ty.beq.mutual_induct
  case case1 | case2 | case8 | case9 | case10 => exact fun a b h => congrArg _ (eq_of_beq h)
  case case3 | case5 | case6 | case7 | case11 => exact fun a b ih h => congrArg _ (ih h)
  case case4 =>
    intro a b c d ih1 ih2 h
    have h := Bool.and_eq_true_iff.mp h
    rw [ih1 h.1, ih2 h.2]
  case case12 =>
    intro t x h1 h2 h3 h4 h5 h6 h7 h8 h9 h10 h11 h
    rw [Ty.beq.eq_12 t x h1 h2 h3 h4 h5 h6 h7 h8 h9 h10 h11] at h
    cases h
  case case13 | case16 => exact fun _ => rfl
  case case14 =>
    intro a as b bs ih1 ih2 h
    have h := Bool.and_eq_true_iff.mp h
    rw [ih1 h.1, ih2 h.2]
  case case15 => exact fun t x h1 h2 h => by rw [Ty.beqList.eq_3 t x h1 h2] at h; cases h
  case case17 =>
    intro n o t as m p u bs ih1 ih2 h
    simp only [Ty.beqProps, Bool.and_eq_true, beq_iff_eq] at h
    rw [h.1.1.1, h.1.1.2, ih1 h.1.2, ih2 h.2]
  case case18 => exact fun t x h1 h2 h => by rw [Ty.beqProps.eq_3 t x h1 h2] at h; cases h

theorem Ty.beq_eq : ∀ a b : Ty, Ty.beq a b = true → a = b := Ty.beq_sound.1
theorem Ty.beqProps_eq : ∀ a b : List (Name × Bool × Ty), Ty.beqProps a b = true → a = b := Ty.beq_sound.2.1
theorem Ty.beqList_eq : ∀ xs ys : List Ty, Ty.beqList xs ys = true → xs = ys := Ty.beq_sound.2.2

theorem modelOK_struct {M : Model} (hM : modelOK M = true) {r : Name} {s : Struct} (h : M.findStruct r = some s) :
    special r = false ∧ M.findEnum r = none ∧ ∃ ps, allProps M propFuel s = some ps ∧ propsOf ps = propsOf (flatten M s) ∧
      namesNodup (ps.map (·.name)) = true ∧ tyOKP (propsOf ps) = true := by
  obtain ⟨hm, rfl⟩ := find?_name (fun x : Struct => x.name) M.structures r s h
  simp only [modelOK, Bool.and_eq_true, List.all_eq_true, Bool.not_eq_true'] at hM
  obtain ⟨hs, hsp⟩ := hM.1.1 s hm
  unfold structOK at hs
  split at hs
  · cases hs
  · rename_i ps hps
    simp only [Bool.and_eq_true, Option.isNone_iff_eq_none] at hs
    exact ⟨hsp, hs.2, ps, hps, Ty.beqProps_eq _ _ hs.1.1.1, hs.1.1.2, hs.1.2⟩

theorem modelOK_enum {M : Model} (hM : modelOK M = true) {r : Name} {e : Enum} (h : M.findEnum r = some e) :
    special r = false ∧ enumOK e = true := by
  obtain ⟨hm, rfl⟩ := find?_name (fun x : Enum => x.name) M.enumerations r e h
  simp only [modelOK, Bool.and_eq_true, List.all_eq_true, Bool.not_eq_true'] at hM
  exact (hM.1.2 e hm).symm

theorem modelOK_alias {M : Model} (hM : modelOK M = true) {r : Name} {a : Alias} (h : M.findAlias r = some a) :
    tyOK a.ty = true ∧ M.findEnum r = none ∧ (r = n!"LSPObject" → ∃ k x, a.ty = .map k x) ∧ (r = n!"LSPArray" → ∃ e, a.ty = .array e) := by
  obtain ⟨hm, rfl⟩ := find?_name (fun x : Alias => x.name) M.aliases r a h
  simp only [modelOK, Bool.and_eq_true, List.all_eq_true] at hM
  have := hM.2 a hm
  simp only [aliasOK, Bool.and_eq_true, Bool.or_eq_true, Option.isNone_iff_eq_none, bne_iff_ne] at this
  exact ⟨this.1.1.1, this.1.1.2, fun h => isMapTy_inv (this.1.2.resolve_left (absurd h)), fun h => isArrayTy_inv (this.2.resolve_left (absurd h))⟩

end LspVerif.TestGen
