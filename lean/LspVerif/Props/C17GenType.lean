/-
  C17, type level: what `genTy` yields is never `Ignore`, what it labels True is strictly valid, and its first
  vector is labelled True — one induction on the fuel (`gen_good`), for every metamodel passing `modelOK`.
-/
import LspVerif.Props.C17GenRows
import LspVerif.Props.C17GenSide
namespace LspVerif.TestGen
open LspVerif

theorem validTy_ref {M : Model} {r : Name} (h : special r = false) (n : Nat) (j : Json) : validTy M (n + 1) (.ref r) j =
    (match M.findEnum r with
      | some e => if e.custom then validBase e.base j else enumHas e j
      | none => match M.findStruct r with
        | some s => (match j with
          | .obj kvs => validProps (validTy M n) (propsOf (flatten M s)) kvs
          | _ => false)
        | none => match M.findAlias r with
          | some a => validTy M n a.ty j
          | none => false) := by
  simp only [special, Bool.or_eq_false_iff] at h
  show (if r == n!"LSPAny" then true else if r == n!"LSPObject" then _ else if r == n!"LSPArray" then _ else _) = _
  simp only [h.1.1, h.1.2, h.2, Bool.false_eq_true, if_false]
  rfl

/-- valid at fuel `f + 1`, not `f`: a message reads its members at `vFuel - 1 = genFuel + 1` (`validTy_envelope`) -/
def Sound (M : Model) (f : Nat) (t : Ty) (g : Vs) : Prop :=
  ∀ p ∈ g, ∃ j, p.2 = GV.val j ∧ (p.1 = true → validTy M (f + 1) t j = true)

def HeadTrue (g : Vs) : Prop := ∀ p, g.head? = some p → p.1 = true

abbrev Good (M : Model) (f : Nat) (t : Ty) (g : Vs) : Prop := Sound M f t g ∧ HeadTrue g

theorem Sound.nil {M : Model} {f : Nat} {t : Ty} : Sound M f t [] := fun _ h => nomatch h

theorem Sound.cons {M : Model} {f : Nat} {t : Ty} {b : Bool} {j : Json} {g : Vs} (h : b = true → validTy M (f + 1) t j = true)
    (hg : Sound M f t g) : Sound M f t (v b j :: g) :=
  List.forall_mem_cons.mpr ⟨⟨j, rfl, h⟩, hg⟩

theorem Sound.mem {M : Model} {f : Nat} {t : Ty} {g : Vs} (h : Sound M f t g) {p : Bool × GV} (hp : p ∈ g) :
    ∃ b j, p = v b j ∧ (b = true → validTy M (f + 1) t j = true) :=
  let ⟨j, hj, hval⟩ := h p hp
  ⟨p.1, j, Prod.ext rfl hj, hval⟩

theorem HeadTrue.nil : HeadTrue [] := fun _ h => nomatch h

theorem HeadTrue.cons {x : GV} {g : Vs} : HeadTrue ((true, x) :: g) := fun _ h => by cases h; rfl

theorem entryOK_of_val {recur : Ty → Json → Bool} {p : Name × Bool × Ty} {x : Bool × GV}
    (h : ∃ j, x.2 = GV.val j ∧ (x.1 = true → recur p.2.2 j = true)) : EntryOK recur p x := by
  obtain ⟨j, hj, hval⟩ := h
  exact ⟨fun hi => (nomatch hj.symm.trans hi), fun j' hj' hx => by cases hj.symm.trans hj'; exact hval hx⟩

/-- The row-built cases of `genTy` (tuple, literal, structure): the members `as` are generated by `F`, one variant list each;
    `R` is what the induction hypothesis says of a member's variants, `mk` builds the value from a row. -/
theorem rows_good {α} {F : α → Option Vs} {R : α → Bool × GV → Prop} {as : List α} {gs : List Vs} {rs : List (List (Bool × GV))}
    (hgs : as.mapM F = some gs) (hrs : rows gs = some rs) (hF : ∀ a ∈ as, ∀ g, F a = some g → (∀ x ∈ g, R a x) ∧ HeadTrue g)
    {M : Model} {f : Nat} {t : Ty} (mk : List (Bool × GV) → Json)
    (hmk : ∀ row, F2 R as row → rowValid row = true → validTy M (f + 1) t (mk row) = true) :
    Good M f t (rs.map fun row => v (rowValid row) (mk row)) := by
  have hm := mapM_spec hgs
  refine ⟨fun p hp => ?_, fun p hp => ?_⟩
  · obtain ⟨row, hrow, rfl⟩ := List.mem_map.mp hp
    exact ⟨_, rfl, hmk row ((hm.comp (rows_spec gs rs hrs row hrow)).imp_mem fun a ha x ⟨g, hg, hx⟩ => (hF a ha g hg).1 x hx)⟩
  · rw [List.head?_map] at hp
    obtain ⟨row, hrow, rfl⟩ := Option.map_eq_some_iff.mp hp
    refine List.all_eq_true.mpr fun x hx => ?_
    obtain ⟨a, ha, g, hg, hxg⟩ := (hm.comp (rows_head hrs hrow)).mem_right x hx
    exact (hF a ha g hg).2 x hxg

theorem gen_map_shape (M : Model) : ∀ (f : Nat) (vis : List Name) (k x : Ty) (g : Vs), genTy M f vis (.map k x) = some g →
    ∀ p ∈ g, ∃ kvs, p.2 = GV.val (.obj kvs) := by
  intro f vis k x g h p hp
  cases f with
  | zero => cases h
  | succ f =>
    obtain ⟨ks, _, h⟩ := Option.bind_eq_some_iff.mp h
    obtain ⟨xs, _, h⟩ := Option.bind_eq_some_iff.mp h
    obtain ⟨q, _, hqp⟩ := (mapM_spec h).mem_right p hp
    obtain ⟨key, _, rfl⟩ := Option.map_eq_some_iff.mp hqp
    exact ⟨_, rfl⟩

theorem gen_array_shape (M : Model) : ∀ (f : Nat) (vis : List Name) (e : Ty) (g : Vs), genTy M f vis (.array e) = some g →
    ∀ p ∈ g, ∃ xs, p.2 = GV.val (.arr xs) := by
  intro f vis e g h p hp
  cases f with
  | zero => cases h
  | succ f =>
    obtain ⟨ge, _, h⟩ := Option.bind_eq_some_iff.mp h
    cases h
    simp only [List.mem_cons, List.mem_append, List.mem_filterMap, List.mem_flatMap] at hp
    rcases hp with (rfl | ⟨q, _, hqe⟩) | ⟨a, _, b, _, hab⟩
    · exact ⟨_, rfl⟩
    · split at hqe <;> cases hqe
      exact ⟨_, rfl⟩
    · split at hab <;> cases hab
      exact ⟨_, rfl⟩

theorem genBase_ok (b : Base) : (genBase b).all (fun p => match p.2 with | .val j => !p.1 || validBase b j | .ignore => false) = true := by
  cases b <;> decide +kernel

theorem genBase_good (M : Model) (f : Nat) (b : Base) : Good M f (.base b) (genBase b) := by
  refine ⟨fun p hp => ?_, by cases b <;> exact .cons⟩
  have := List.all_eq_true.mp (genBase_ok b) p hp
  split at this
  · rename_i j hj
    exact ⟨j, hj, fun h1 => by rw [h1] at this; exact this⟩
  · cases this

theorem enum_good {M : Model} {f : Nat} {r : Name} {e : Enum} {j0 jc : Json}
    (hv : ∀ j, validTy M (f + 1) (.ref r) j = if e.custom then validBase e.base j else enumHas e j)
    (h0 : enumHas e j0 = true) (hc : e.custom = true → validBase e.base j0 = true ∧ validBase e.base jc = true) :
    Good M f (.ref r) [v true j0, v e.custom jc] := by
  refine ⟨.cons (fun _ => ?_) (.cons (fun h => ?_) .nil), .cons⟩ <;> rw [hv]
  · by_cases h : e.custom = true
    · rw [if_pos h]; exact (hc h).1
    · rw [if_neg h]; exact h0
  · rw [if_pos h]; exact (hc h).2

/-- the two variants generated for an object type without declared properties -/
theorem ext_good {M : Model} {f : Nat} {t : Ty} (h : ∀ kvs, validTy M (f + 1) t (.obj kvs) = true) :
    Good M f t [v true (.obj [(n!"lspExtension", .str n!"some value")]), v true (.obj [])] :=
  ⟨.cons (fun _ => h _) (.cons (fun _ => h _) .nil), .cons⟩

theorem isNullTy_inv {t : Ty} (h : isNullTy t = true) : t = .base .null := by
  cases t with
  | base b => cases b <;> first | rfl | cases h
  | _ => cases h

theorem gen_good (M : Model) (hM : modelOK M = true) : ∀ (f : Nat) (vis : List Name) (t : Ty) (g : Vs),
    tyOK t = true → genTy M f vis t = some g → Good M f t g := by
  intro f
  induction f with
  | zero => exact fun _ _ _ _ h => nomatch h
  | succ f ih =>
    intro vis t g hok h
    cases t with
    | base b => cases h; exact genBase_good M (f + 1) b
    | strLit s => cases h; exact ⟨.cons (fun _ => strLit_valid) .nil, .cons⟩
    | intLit i => cases h; exact ⟨.nil, .nil⟩
    | boolLit i => cases h; exact ⟨.nil, .nil⟩
    | and ts => cases hok
    | array e =>
      obtain ⟨ge, hg, h⟩ := Option.bind_eq_some_iff.mp h
      cases h
      have ihe := (ih vis e ge hok hg).1
      refine ⟨.cons (fun _ => rfl) fun p hp => ?_, .cons⟩
      rcases List.mem_append.mp hp with hp | hp
      · obtain ⟨q, hq, hqe⟩ := List.mem_filterMap.mp hp
        obtain ⟨b, j, rfl, hval⟩ := ihe.mem hq
        cases hqe
        exact ⟨_, rfl, fun h1 => by rw [validTy_array, List.all_cons, hval h1]; rfl⟩
      · obtain ⟨a, ha, hp⟩ := List.mem_flatMap.mp hp
        obtain ⟨b, hb, hab⟩ := List.mem_filterMap.mp hp
        obtain ⟨_, ja, rfl, hvala⟩ := ihe.mem (List.mem_of_mem_take ha)
        obtain ⟨_, jb, rfl, hvalb⟩ := ihe.mem (List.mem_of_mem_take hb)
        cases hab
        exact ⟨_, rfl, fun h1 => by
          have h1 := Bool.and_eq_true_iff.mp h1
          rw [validTy_array, List.all_cons, List.all_cons, hvala h1.1, hvalb h1.2]; rfl⟩
    | tuple ts =>
      obtain ⟨gs, hgs, h⟩ := Option.bind_eq_some_iff.mp h
      obtain ⟨rs, hrs, h⟩ := Option.bind_eq_some_iff.mp h
      cases h
      exact rows_good hgs hrs (fun t ht g hg => ih vis t g (tyOKL_mem hok t ht) hg) _
        fun row hrow hv => tuple_valid _ ts row hrow hv
    | map k x =>
      obtain ⟨ks, hks, h⟩ := Option.bind_eq_some_iff.mp h
      obtain ⟨xs, hxs, h⟩ := Option.bind_eq_some_iff.mp h
      have hok : tyOK k = true ∧ tyOK x = true := Bool.and_eq_true_iff.mp hok
      obtain ⟨sk, hk⟩ := ih vis k ks hok.1 hks
      obtain ⟨sx, hx⟩ := ih vis x xs hok.2 hxs
      have hm := mapM_spec h
      constructor
      · intro p hp
        obtain ⟨q, hq, hqp⟩ := hm.mem_right p hp
        obtain ⟨a, ha, hq⟩ := List.mem_flatMap.mp hq
        obtain ⟨b, hb, hab⟩ := List.mem_filterMap.mp hq
        obtain ⟨_, ja, rfl, _⟩ := sk.mem ha
        obtain ⟨_, jb, rfl, hvalb⟩ := sx.mem hb
        cases hab
        obtain ⟨key, _, rfl⟩ := Option.map_eq_some_iff.mp hqp
        exact ⟨_, rfl, fun hv => by rw [validTy_map, List.all_cons, hvalb (Bool.and_eq_true_iff.mp hv).2]; rfl⟩
      · -- the first pair is made of the first key and the first value, neither of which is `Ignore`
        intro p hp
        obtain ⟨q, hq, hqp⟩ := hm.head_right hp
        obtain ⟨key, _, rfl⟩ := Option.map_eq_some_iff.mp hqp
        cases ks with
        | nil => cases hq
        | cons a _ =>
          cases xs with
          | nil =>
            rw [List.head?_flatMap] at hq
            obtain ⟨_, _, h⟩ := List.exists_of_findSome?_eq_some hq
            cases h
          | cons b _ =>
            obtain ⟨_, ja, rfl, _⟩ := sk.mem List.mem_cons_self
            obtain ⟨_, jb, rfl, _⟩ := sx.mem List.mem_cons_self
            cases hq
            exact Bool.and_eq_true_iff.mpr ⟨hk _ rfl, hx _ rfl⟩
    | or ts =>
      obtain ⟨gs, hgs, h⟩ := Option.bind_eq_some_iff.mp h
      cases h
      have hgood : ∀ gi ∈ gs, ∃ t ∈ ts, Good M f t gi := fun gi hgi => by
        obtain ⟨t, ht, hgen⟩ := (mapM_spec hgs).mem_right gi hgi
        have ht := (List.mem_filter.mp ht).1
        exact ⟨t, ht, ih vis t gi (tyOKL_mem hok t ht) hgen⟩
      have hfl : Sound M (f + 1) (.or ts) gs.flatten := fun p hp => by
        obtain ⟨gi, hgi, hpgi⟩ := List.mem_flatten.mp hp
        obtain ⟨t, ht, hs, _⟩ := hgood gi hgi
        obtain ⟨j, hj, hval⟩ := hs p hpgi
        exact ⟨j, hj, fun h1 => List.any_eq_true.mpr ⟨t, ht, hval h1⟩⟩
      split
      next hnull =>
        obtain ⟨a, ha, hna⟩ := List.any_eq_true.mp hnull
        exact ⟨.cons (fun _ => by
          exact List.any_eq_true.mpr ⟨a, ha, by rw [isNullTy_inv hna]; rfl⟩) hfl, .cons⟩
      next =>
        refine ⟨hfl, fun p hp => ?_⟩
        rw [List.nil_append, List.head?_flatten] at hp
        obtain ⟨gi, hgi, hpg⟩ := List.exists_of_findSome?_eq_some hp
        obtain ⟨_, _, _, hh⟩ := hgood gi hgi
        exact hh p hpg
    | lit props =>
      have hok : namesNodup (props.map (·.1)) = true ∧ tyOKP props = true := Bool.and_eq_true_iff.mp hok
      cases props with
      | nil => cases h; exact ext_good fun kvs => rfl
      | cons p ps =>
        obtain ⟨gs, hgs, h⟩ := Option.bind_eq_some_iff.mp h
        obtain ⟨rs, hrs, h⟩ := Option.bind_eq_some_iff.mp h
        cases h
        exact rows_good hgs hrs (R := EntryOK (validTy M (f + 1)))
          (fun q hq g hg => (ih vis q.2.2 g (tyOKP_mem hok.2 q hq) hg).imp_left fun s x hx => entryOK_of_val (s x hx)) _
          fun row hrow hv => by rw [objOfRow_eq, validTy_lit]; exact obj_valid _ _ row hrow hok.1 hv
    | ref r =>
      simp only [genTy] at h
      by_cases hvis : ((vis ++ [r]).filter (· == r)).length > 2
      · rw [if_pos hvis] at h; cases h; exact ⟨.nil, .nil⟩
      rw [if_neg hvis] at h
      cases hfs : M.findStruct r with
      | some s =>
        obtain ⟨hsp, hen, ps, hps, hflat, hnd, htys⟩ := modelOK_struct hM hfs
        have hvalid : ∀ kvs, validTy M (f + 1 + 1) (.ref r) (.obj kvs) = validProps (validTy M (f + 1)) (propsOf ps) kvs :=
          fun kvs => by rw [validTy_ref hsp, hen, hfs, hflat]
        have hnames : (propsOf ps).map (·.1) = ps.map (·.name) := List.map_map ..
        simp only [hfs, hps, Option.bind_eq_bind, Option.bind_some] at h
        cases ps with
        | nil => cases h; exact ext_good fun kvs => by rw [hvalid]; rfl
        | cons _ _ =>
          obtain ⟨gs, hgs, h⟩ := Option.bind_eq_some_iff.mp h
          obtain ⟨rs, hrs, h⟩ := Option.bind_eq_some_iff.mp h
          cases h
          refine rows_good hgs hrs (R := fun q x => EntryOK (validTy M (f + 1)) (q.name, q.optional, q.ty) x) (fun q hq g hg => ?_) _
            fun row hrow hv => by
              rw [objOfRow_eq, hvalid, ← hnames]
              exact obj_valid _ (propsOf _) row (.map_left _ hrow) (hnames ▸ hnd) hv
          -- `generate_for_property`: the variants of an optional property start with `Ignore`
          obtain ⟨g0, hg0, hg⟩ := Option.bind_eq_some_iff.mp hg
          cases hg
          obtain ⟨s0, h0⟩ := ih (vis ++ [r]) q.ty g0 (tyOKP_mem htys (q.name, q.optional, q.ty) (List.mem_map_of_mem hq)) hg0
          have hs : ∀ x ∈ g0, EntryOK (validTy M (f + 1)) (q.name, q.optional, q.ty) x := fun x hx => entryOK_of_val (s0 x hx)
          split
          next hopt => exact ⟨List.forall_mem_cons.mpr ⟨⟨fun _ => hopt, fun j hj => nomatch hj⟩, hs⟩, .cons⟩
          next => exact ⟨hs, h0⟩
      | none =>
        cases hfa : M.findAlias r with
        | some a =>
          obtain ⟨hty, hen, hobj, harr⟩ := modelOK_alias hM hfa
          simp only [hfs, hfa, Option.bind_eq_bind, Option.bind_eq_some_iff] at h
          obtain ⟨g0, hg0, h⟩ := h
          obtain ⟨s0, h0⟩ := ih (vis ++ [r]) a.ty g0 hty hg0
          split at h
          next hspec =>
            -- `LSPObject`, `LSPAny`, `LSPArray`: every label becomes True, so validity must come from the shape alone
            cases h
            refine ⟨fun p hp => ?_, fun p hp => ?_⟩
            · obtain ⟨q, hq, rfl⟩ := List.mem_map.mp hp
              obtain ⟨j, hj, _⟩ := s0 q hq
              refine ⟨j, hj, fun _ => ?_⟩
              simp only [Bool.or_eq_true, beq_iff_eq] at hspec
              rcases hspec with (rfl | rfl) | rfl
              · obtain ⟨k, x, hat⟩ := hobj rfl
                obtain ⟨kvs, hkvs⟩ := gen_map_shape M f _ k x g0 (hat ▸ hg0) q hq
                cases hj.symm.trans hkvs
                rfl
              · rfl
              · obtain ⟨e, hat⟩ := harr rfl
                obtain ⟨xs, hxs⟩ := gen_array_shape M f _ e g0 (hat ▸ hg0) q hq
                cases hj.symm.trans hxs
                rfl
            · rw [List.head?_map] at hp
              obtain ⟨q, _, rfl⟩ := Option.map_eq_some_iff.mp hp
              rfl
          next hspec =>
            cases h
            have hsp : special r = false := by
              simp only [Bool.or_eq_true, not_or] at hspec
              simp only [special, hspec.1.1, hspec.1.2, hspec.2, Bool.or_self]
            refine ⟨fun p hp => ?_, h0⟩
            obtain ⟨j, hj, hval⟩ := s0 p hp
            exact ⟨j, hj, fun h1 => by rw [validTy_ref hsp, hen, hfs, hfa]; exact hval h1⟩
        | none =>
          cases hfe : M.findEnum r with
          | none => simp only [hfs, hfa, hfe] at h; cases h
          | some e =>
            obtain ⟨hsp, heok⟩ := modelOK_enum hM hfe
            have hv : ∀ j, validTy M (f + 1 + 1) (.ref r) j = if e.custom then validBase e.base j else enumHas e j :=
              fun j => by rw [validTy_ref hsp, hfe]
            simp only [hfs, hfa, hfe] at h
            cases he0 : e.values.head? with
            | none => rw [he0] at h; cases h
            | some e0 =>
              have hmem : e0 ∈ e.values := List.mem_of_mem_head? he0
              cases hi : e0.value <;>
                simp only [enumOK, he0, hi, Bool.or_eq_true, Bool.and_eq_true] at h heok <;> cases h <;>
                exact enum_good hv (List.any_eq_true.mpr ⟨e0, hmem, beq_iff_eq.mpr hi⟩) fun hc => heok.resolve_left (by rw [hc]; nofun)

theorem gen_sound (M : Model) (hM : modelOK M = true) : ∀ (f : Nat) (vis : List Name) (t : Ty) (g : Vs),
    tyOK t = true → genTy M f vis t = some g → Sound M f t g :=
  fun f vis t g hok h => (gen_good M hM f vis t g hok h).1

theorem gen_head_true (M : Model) (hM : modelOK M = true) : ∀ (f : Nat) (vis : List Name) (t : Ty) (g : Vs),
    tyOK t = true → genTy M f vis t = some g → HeadTrue g :=
  fun f vis t g hok h => (gen_good M hM f vis t g hok h).2

end LspVerif.TestGen
