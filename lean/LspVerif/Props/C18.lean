/-
  C18 — `==` between loaded models (generator/model.py): on well-formed values it never raises and
  is reflexive, for every loader table whose `__eq__` methods read existing attributes only, and
  values that compare equal have the same structure.  `eqVal` hands the comparison of the parts to
  `eqLists` / `eqAttrs` as a parameter, so what the three theorems need of those two is proved for an
  arbitrary comparison `r`.  Last, the validation gate of `__main__` as a trace property.
-/
import LspVerif.Core.Loader
namespace LspVerif.Loader
open LspVerif

/-! The cases of `fun_induction eqLists`: both lists empty; the heads compare `.t`; the heads compare
    otherwise; the lengths differ.  Of `fun_induction eqAttrs`: no name left; both values there and
    `.t`; both there, not `.t`; one missing. -/
section lift
variable {r : Val → Val → EqR} {as bs : List (Name × Val)} {f : Val → Val}

theorem eqLists_refl {l : List Val} (h : ∀ x ∈ l, r x x = .t) : eqLists r l l = .t := by
  induction l with
  | nil => rfl
  | cons x xs ih => rw [eqLists, h x (.head _)]; exact ih fun y hy => h y (.tail _ hy)

theorem eqLists_ne_raise {l m : List Val} (h : ∀ x ∈ l, ∀ y ∈ m, r x y ≠ .raise) : eqLists r l m ≠ .raise := by
  fun_induction eqLists r l m with
  | case1 => nofun
  | case2 x xs y ys _ ih => exact ih fun a ha b hb => h a (.tail _ ha) b (.tail _ hb)
  | case3 x xs y ys => exact h x (.head _) y (.head _)
  | case4 => nofun

theorem eqLists_map {l m : List Val} (h : eqLists r l m = .t) (hf : ∀ x y, r x y = .t → f x = f y) :
    l.map f = m.map f := by
  fun_induction eqLists r l m with
  | case1 => rfl
  | case2 x xs y ys hxy ih => rw [List.map_cons, List.map_cons, hf x y hxy, ih h]
  | case3 x xs y ys hxy => exact absurd h hxy
  | case4 => cases h

theorem eqAttrs_refl {l : List Name} (h : ∀ a ∈ l, ∃ x, getAttr as a = some x ∧ r x x = .t) :
    eqAttrs r as as l = .t := by
  induction l with
  | nil => rfl
  | cons a rest ih =>
    obtain ⟨x, hx, hr⟩ := h a (.head _)
    simp only [eqAttrs, hx, hr]; exact ih fun b hb => h b (.tail _ hb)

theorem eqAttrs_ne_raise {l : List Name}
    (h : ∀ a ∈ l, ∃ x y, getAttr as a = some x ∧ getAttr bs a = some y ∧ r x y ≠ .raise) :
    eqAttrs r as bs l ≠ .raise := by
  fun_induction eqAttrs r as bs l with
  | case1 => nofun
  | case2 a rest x y _ _ _ ih => exact ih fun b hb => h b (.tail _ hb)
  | case3 a rest x y hy hx =>
    obtain ⟨x', y', hx', hy', hr⟩ := h a (.head _)
    cases hx.symm.trans hx'; cases hy.symm.trans hy'; exact hr
  | case4 a rest hno =>
    obtain ⟨x, y, hx, hy, _⟩ := h a (.head _)
    exact absurd hy (hno x y hx)

theorem eqAttrs_filterMap {l : List Name} (h : eqAttrs r as bs l = .t) (hf : ∀ x y, r x y = .t → f x = f y) :
    l.filterMap (fun a => (getAttr as a).map fun x => (a, f x)) =
    l.filterMap (fun a => (getAttr bs a).map fun x => (a, f x)) := by
  fun_induction eqAttrs r as bs l with
  | case1 => rfl
  | case2 a rest x y hy hx hxy ih =>
    rw [List.filterMap_cons, List.filterMap_cons, hx, hy, Option.map_some, Option.map_some, hf x y hxy, ih h]
  | case3 a rest x y _ _ hxy => exact absurd h hxy
  | case4 => cases h

end lift

theorem EqR.of_ite {c : Prop} [Decidable c] {r : EqR} (h : (if c then r else .f) = .t) : c ∧ r = .t := by
  split at h
  · exact ⟨‹c›, h⟩
  · cases h

theorem getAttr_mem {as : List (Name × Val)} {a : Name} {v : Val} (h : getAttr as a = some v) : (a, v) ∈ as := by
  fun_induction getAttr as a with
  | case1 => cases h
  | case2 k w rest hk => cases h; cases eq_of_beq hk; exact .head _
  | case3 k w rest _ ih => exact .tail _ (ih h)

theorem wfVal_node {S : LoaderSpec} (hr : readsExist S = true) {n : Nat} {c : Name} {as : List (Name × Val)}
    (h : wfVal S (n + 1) (.node c as) = true) :
    ∃ cs, S.find c = some cs ∧ ∀ a ∈ cs.eqReads, ∃ v, getAttr as a = some v ∧ wfVal S n v = true := by
  rw [wfVal] at h
  split at h
  · next cs hf =>
    rw [Bool.and_eq_true, List.all_eq_true, List.all_eq_true] at h
    refine ⟨cs, hf, fun a ha => ?_⟩
    have hsub := List.all_eq_true.1 (List.all_eq_true.1 hr cs (List.mem_of_find?_eq_some hf)) a ha
    obtain ⟨v, hv⟩ := Option.isSome_iff_exists.1 (h.1 a (List.contains_iff_mem.1 hsub))
    exact ⟨v, hv, h.2 _ (getAttr_mem hv)⟩
  · cases h

/-- C18: two loads of one document compare equal (the uuid `id_` is not part of a `Val`). -/
theorem eqVal_refl (S : LoaderSpec) (hr : readsExist S = true) :
    ∀ (n : Nat) (v : Val), wfVal S n v = true → eqVal S n v v = .t := by
  intro n
  induction n with
  | zero => nofun
  | succ n ih =>
    intro v h
    cases v with
    | atom a => rw [eqVal, if_pos (beq_self_eq_true _)]
    | list vs =>
      rw [eqVal, if_pos (beq_self_eq_true _)]
      exact eqLists_refl fun x hx => ih x (List.all_eq_true.1 h x hx)
    | node c as =>
      obtain ⟨cs, hf, hv⟩ := wfVal_node hr h
      simp only [eqVal, beq_self_eq_true, if_true, hf]
      exact eqAttrs_refl fun a ha => let ⟨v, hv, hw⟩ := hv a ha; ⟨v, hv, ih v hw⟩

/-- C18: `==` distinguishes structure.  Values that compare equal agree, at every depth, on every attribute
    an `__eq__` reads (`strip`); so loads of structurally different documents do not compare `True`. -/
theorem eqVal_strip (S : LoaderSpec) : ∀ (n : Nat) (a b : Val), eqVal S n a b = .t → strip S n a = strip S n b := by
  intro n
  induction n with
  | zero => nofun
  | succ n ih =>
    intro a b h
    unfold eqVal at h
    split at h
    · cases eq_of_beq (EqR.of_ite h).1; rfl
    · simp only [strip, eqLists_map (EqR.of_ite h).2 ih]
    · obtain ⟨hcd, hr⟩ := EqR.of_ite h
      cases eq_of_beq hcd
      split at hr
      · next cs hf => simp only [strip, hf, eqAttrs_filterMap hr ih]
      · cases hr
    · cases h

/-- C18: `==` between well-formed loaded values raises no `AttributeError`. -/
theorem eqVal_total (S : LoaderSpec) (hr : readsExist S = true) :
    ∀ (n : Nat) (v w : Val), wfVal S n v = true → wfVal S n w = true → eqVal S n v w ≠ .raise := by
  intro n
  induction n with
  | zero => nofun
  | succ n ih =>
    intro v w hv hw
    unfold eqVal
    split
    · split <;> nofun
    · split
      · exact eqLists_ne_raise fun x hx y hy => ih x y (List.all_eq_true.1 hv x hx) (List.all_eq_true.1 hw y hy)
      · nofun
    · split
      · next hcd =>
        cases eq_of_beq hcd
        obtain ⟨cs, hf, hv⟩ := wfVal_node hr hv
        obtain ⟨cs', hf', hw⟩ := wfVal_node hr hw
        cases hf.symm.trans hf'
        rw [hf]
        exact eqAttrs_ne_raise fun a ha =>
          let ⟨x, hx, hx'⟩ := hv a ha
          let ⟨y, hy, hy'⟩ := hw a ha
          ⟨x, y, hx, hy, ih x y hx' hy'⟩
      · nofun
    · nofun

/-- Schema constructs the loader has no counterpart for: (schema definition, what is missing). -/
def schemaGaps (S : LoaderSpec) (defs : List (Name × Name × List Name × List Name)) (kinds : List Name) :
    List (Name × Name) :=
  (kinds.filter (fun k => !(S.kinds.any (·.1 == k)))).map (fun k => (n!"kind", k)) ++
  defs.flatMap (fun d =>
    let (sn, cn, props, req) := d
    match S.find cn with
    | none => [(sn, n!"<no class>")]
    | some c =>
      (props.filter (fun p => !c.fields.contains p)).map (fun p => (sn, p)) ++
      (c.required.filter (fun r => !req.contains r)).map (fun r => (sn, r)))

def gapsWithin (gaps known : List (Name × Name)) : Bool := gaps.all (fun g => known.contains g)

/-- the order in which `create_lsp_model` (generator/model.py) extends the five declaration lists: C18's "merge is concatenation" -/
def mergeOK (S : LoaderSpec) : Bool :=
  S.mergeLists == [n!"requests", n!"notifications", n!"structures", n!"enumerations", n!"typeAliases"]

/-- the gate as a trace property: every model file is validated (inside the loop over the files)
    before the model is created, and the plugin runs after both -/
def gateOK (S : LoaderSpec) : Bool :=
  S.mainOrder == [n!"validate-each-file", n!"create", n!"generate"]

inductive Ev | validateAll | create | generate
def evOf (n : Name) : Option Ev :=
  if n == n!"validate-each-file" then some .validateAll else if n == n!"create" then some .create
  else if n == n!"generate" then some .generate else none

/-- Returns (exit ok?, did a plugin run?). -/
def runMain (allValid : Bool) : List Name → Bool × Bool
  | [] => (true, false)
  | e :: rest =>
    match evOf e with
    | some .validateAll => if allValid then runMain allValid rest else (false, false)
    | some .generate => (let r := runMain allValid rest; (r.1, true))
    | _ => runMain allValid rest

theorem gate_blocks (S : LoaderSpec) (h : gateOK S = true) : runMain false S.mainOrder = (false, false) := by
  rw [eq_of_beq (a := S.mainOrder) h]
  decide

end LspVerif.Loader
