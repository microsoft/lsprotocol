/-
  C19.  Schedules: the once-only section of `_resolve_forward_references` as a transition system
  (Core/Conc.lean).  With the lock and the re-check under it, for every number of threads, every
  registry size and every schedule, no thread raises and a thread that is done has seen the flag set
  and every entry resolved (`C19_schedules`); without the lock a thread can raise (`unlocked_races`:
  two threads, eight steps).  `Inv` is an assertion per thread over its own state and the shared fields
  (`Inv.At`) together with `flag → allResolved`.  A step keeps it because the stepping thread either
  moves alone (`Inv.set`) or writes shared fields while no other thread holds the lock (`Inv.write`).
  Histories: what `get_converter` returns does not depend on earlier creations (Core/Hist.lean).
-/
import LspVerif.Core.Conc
import LspVerif.Core.Hist
namespace LspVerif.Conc

def PC.critical : PC → Bool
  | .check | .iter | .resolve | .setFlag | .unlock => true
  | _ => false

structure Inv (g : G) : Prop where
  crit : ∀ t, (g.th t).pc.critical = true → g.lock = some t
  -- `step` at `.iter` raises exactly when `snap ≠ version` (Python's "dictionary changed size during iteration")
  snapOK : ∀ t, (g.th t).pc = .iter → (g.th t).snap = g.version
  noRaise : ∀ t, (g.th t).raised = false
  doneFlag : ∀ t, (g.th t).pc = .done → g.flag = true
  unlockFlag : ∀ t, (g.th t).pc = .unlock → g.flag = true
  flagResolved : g.flag = true → g.allResolved = true
  setFlagResolved : ∀ t, (g.th t).pc = .setFlag → g.allResolved = true


section
variable {g g' : G} {t : Nat} {s : T}

/-- What `Inv` asks of thread `t` in state `s`; of `g` only the shared fields occur.  At a given
    program counter most fields are vacuous: left out of an instance, they are closed by `nofun`. -/
structure Inv.At (g : G) (t : Nat) (s : T) : Prop where
  crit : s.pc.critical = true → g.lock = some t := by nofun
  snapOK : s.pc = .iter → s.snap = g.version := by nofun
  noRaise : s.raised = false
  doneFlag : s.pc = .done → g.flag = true := by nofun
  unlockFlag : s.pc = .unlock → g.flag = true := by nofun
  setFlagResolved : s.pc = .setFlag → g.allResolved = true := by nofun

theorem Inv.at (h : Inv g) (u : Nat) : Inv.At g u (g.th u) :=
  ⟨h.crit u, h.snapOK u, h.noRaise u, h.doneFlag u, h.unlockFlag u, h.setFlagResolved u⟩

theorem Inv.of_at (h : ∀ u, Inv.At g u (g.th u)) (hf : g.flag = true → g.allResolved = true) : Inv g :=
  ⟨fun u => (h u).crit, fun u => (h u).snapOK, fun u => (h u).noRaise, fun u => (h u).doneFlag,
   fun u => (h u).unlockFlag, hf, fun u => (h u).setFlagResolved⟩

theorem Inv.At.of_not_critical (hc : s.pc.critical = false) (hr : s.raised = false)
    (hd : s.pc = .done → g.flag = true) : Inv.At g t s where
  crit h := nomatch hc ▸ h
  snapOK h := nomatch h ▸ hc
  noRaise := hr
  doneFlag := hd
  unlockFlag h := nomatch h ▸ hc
  setFlagResolved h := nomatch h ▸ hc

theorem inv_init : Inv init := .of_at (fun _ => { noRaise := rfl }) nofun

theorem Inv.set (h : Inv g) (hs : Inv.At g t s) : Inv (g.set t s) := by
  have same {u x} (hx : Inv.At g u x) : Inv.At (g.set t s) u x := ⟨hx.1, hx.2, hx.3, hx.4, hx.5, hx.6⟩
  refine .of_at (fun u => ?_) h.flagResolved
  show Inv.At (g.set t s) u (if u = t then s else g.th u)
  split
  · next hu => exact hu ▸ same hs
  · exact same (h.at u)

theorem Inv.write (h : Inv g) (hl : ∀ u, g.lock = some u → u = t) (hth : g'.th = (g.set t s).th)
    (hf : g.flag = true → g'.flag = true) (hr : g'.flag = true → g'.allResolved = true)
    (hs : Inv.At g' t s) : Inv g' := by
  refine .of_at (fun u => ?_) hr
  rw [hth]
  show Inv.At g' u (if u = t then s else g.th u)
  split
  · next hu => exact hu ▸ hs
  · next hu =>
    exact .of_not_critical (Bool.eq_false_iff.2 fun hc => hu (hl u (h.crit u hc))) (h.noRaise u)
      fun hp => hf (h.doneFlag u hp)

/-- only `locked` and `recheck` are assumed: `fastPath` is harmless and `step` does not read `materialised` -/
theorem inv_step_locked {sh : Shape} (hl : sh.locked = true) (hr : sh.recheck = true) (K : Nat) (t : Nat) (h : Inv g) :
    Inv (step sh K g t) := by
  have ht := h.at t
  unfold step
  simp only [ht.noRaise, Bool.false_eq_true, if_false]
  cases hpc : (g.th t).pc <;> simp only [hl, hr, if_true]
  -- every `Inv.At` below is that of the thread's new state
  case done => exact h
  case start =>
    split
    · next hc => exact h.set { noRaise := rfl, doneFlag := fun _ => (Bool.and_eq_true_iff.1 hc).2 }
    · exact h.set { noRaise := rfl }
  case wantLock =>
    split
    · next hn =>
      exact h.write (fun u hu => nomatch hn ▸ hu) rfl id h.flagResolved { crit := fun _ => rfl, noRaise := rfl }
    · exact h
  -- the other program counters are critical: `t` holds the lock
  all_goals have hlock := ht.crit (hpc ▸ rfl)
  case check =>
    split
    · next hf => exact h.set { crit := fun _ => hlock, noRaise := rfl, unlockFlag := fun _ => hf }
    · exact h.set { crit := fun _ => hlock, noRaise := rfl, snapOK := fun _ => rfl }
  case iter =>
    rw [if_neg fun hne => hne (ht.snapOK hpc)]
    split
    · exact h.set { crit := fun _ => hlock, noRaise := rfl }
    · exact h.set { crit := fun _ => hlock, noRaise := rfl, snapOK := fun _ => ht.snapOK hpc }
  all_goals have hown : ∀ u, g.lock = some u → u = t := fun u hu => Option.some.inj (hu.symm.trans hlock)
  case resolve =>
    split
    · exact h.write hown rfl id (fun _ => rfl) { crit := fun _ => hlock, noRaise := rfl, setFlagResolved := fun _ => rfl }
    · exact h.write hown rfl id h.flagResolved { crit := fun _ => hlock, noRaise := rfl }
  case setFlag =>
    exact h.write hown rfl (fun _ => rfl) (fun _ => ht.setFlagResolved hpc)
      { crit := fun _ => hlock, noRaise := rfl, unlockFlag := fun _ => rfl }
  case unlock =>
    exact h.write hown rfl id h.flagResolved { noRaise := rfl, doneFlag := fun _ => ht.unlockFlag hpc }

end

theorem inv_step (sh : Shape) (hs : sh.safe = true) (K : Nat) (g : G) (t : Nat) (h : Inv g) : Inv (step sh K g t) := by
  simp only [Shape.safe, Bool.and_eq_true] at hs
  exact inv_step_locked hs.1.1 hs.1.2 K t h

theorem inv_run (sh : Shape) (hs : sh.safe = true) (K : Nat) (sched : List Nat) : Inv (run sh K init sched) :=
  sched.foldlRecOn (step sh K) inv_init fun g hg t _ => inv_step sh hs K g t hg

theorem C19_schedules (sh : Shape) (hs : sh.safe = true) (K : Nat) (sched : List Nat) :
    let g := run sh K init sched
    (∀ t, (g.th t).raised = false) ∧ (∀ t, (g.th t).pc = .done → g.flag = true ∧ g.allResolved = true) :=
  let h := inv_run sh hs K sched
  ⟨h.noRaise, fun t ht => ⟨h.doneFlag t ht, h.flagResolved (h.doneFlag t ht)⟩⟩

/-- The shape of upstream's `_resolve_forward_references` (flag test only, no lock); /repo carries the repair.  In the schedule of
    `unlocked_races` T0 enters the filter, T1 runs to its first resolve, T0 advances its iterator. -/
def unlockedShape : Shape := { fastPath := false, locked := false, recheck := false, materialised := true }

theorem unlocked_races :
    ((run unlockedShape 1 init [0, 0, 1, 1, 1, 1, 1, 0]).th 0).raised = true := by decide

/-- non-vacuity of `C19_schedules`: under the locked shape the two threads run to `done` -/
def lockedShape : Shape := { fastPath := true, locked := true, recheck := true, materialised := true }
example : ((run lockedShape 1 init [0, 0, 1, 1, 0, 0, 0, 0, 0, 0, 0, 1, 1, 1, 1]).th 0).raised = false ∧
          ((run lockedShape 1 init [0, 0, 1, 1, 0, 0, 0, 0, 0, 0, 0, 1, 1, 1, 1]).th 0).pc = .done := by decide

end LspVerif.Conc

namespace LspVerif.Hist

/-- C19 (histories): whatever converters were created before, with whatever configurations and in
    whatever number, the converter a creation returns is the one the same creation returns in a
    fresh process.  This holds by the definition of `create`, which reads no state: that
    `get_converter` reads none is what the scan obligation `Scan.ok` establishes per run. -/
theorem history_independent {Cfg Conv : Type} (regs : Cfg → Conv) (hist : List Cfg) (cfg : Cfg) (w0 : W) :
    (create regs cfg (after regs hist w0)).1 = (create regs cfg {}).1 := rfl

theorem creation_order_irrelevant {Cfg Conv : Type} (regs : Cfg → Conv) (h1 h2 : List Cfg) (cfg : Cfg) :
    (create regs cfg (after regs h1 {})).1 = (create regs cfg (after regs h2 {})).1 := rfl

theorem flag_after {Cfg Conv : Type} (regs : Cfg → Conv) (hist : List Cfg) (w0 : W) (h : hist ≠ []) :
    (after regs hist w0).flag = true := by
  cases hist with
  | nil => exact absurd rfl h
  | cons c rest => exact rest.foldlRecOn (motive := fun w : W => w.flag = true) _ rfl fun _ _ _ _ => rfl

end LspVerif.Hist
