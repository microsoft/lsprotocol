/-
  C20 — generic facts about the specification side (no reference to the translated code).
  The property theorems themselves are stated in tools/props/c20.py's instance template and
  proved against the definitions regenerated from /repo on every run.
-/
import LspVerif.Core.Cmp
namespace LspVerif.Cmp

theorem lex_trichotomy (a b : Pos) :
    (lexOp .lt a b = true ∧ lexOp .eq a b = false ∧ lexOp .gt a b = false) ∨
    (lexOp .lt a b = false ∧ lexOp .eq a b = true ∧ lexOp .gt a b = false) ∨
    (lexOp .lt a b = false ∧ lexOp .eq a b = false ∧ lexOp .gt a b = true) := by
  obtain ⟨al, ac⟩ := a
  obtain ⟨bl, bc⟩ := b
  simp [lexOp, lexLt]
  grind

/-- By the definition of `lexOp`; recorded so that a change of the specification's `le` / `ge` / `ne`
    clauses shows. -/
theorem lex_complements (a b : Pos) :
    lexOp .le a b = !lexOp .gt a b ∧ lexOp .ge a b = !lexOp .lt a b ∧ lexOp .ne a b = !lexOp .eq a b :=
  ⟨rfl, rfl, rfl⟩

/-- `related`, `sameKind` and `isOrdering` are the vocabulary of the hypotheses of the per-run `C20_unrelated` (tools/props/c20.py). -/
def Obj.related : Obj → Bool
  | .other _ => false
  | _ => true

def Obj.sameKind : Obj → Obj → Bool
  | .pos _, .pos _ => true
  | .rng _, .rng _ => true
  | .loc _, .loc _ => true
  | _, _ => false

def Op.isOrdering : Op → Bool
  | .eq | .ne => false
  | _ => true

end LspVerif.Cmp
