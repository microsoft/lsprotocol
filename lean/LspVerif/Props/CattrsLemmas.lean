import LspVerif.Core.Cattrs
namespace LspVerif

theorem Json.lookup_cons_self (k : Name) (v : Json) (kvs : List (Name × Json)) : Json.lookup ((k, v) :: kvs) k = some v := by
  rw [Json.lookup, beq_self_eq_true]; rfl

theorem Json.lookup_cons_ne {k' k : Name} (h : k' ≠ k) (v : Json) (kvs : List (Name × Json)) :
    Json.lookup ((k', v) :: kvs) k = Json.lookup kvs k := by
  rw [Json.lookup, if_neg (by rwa [beq_iff_eq])]

/-- `Json.lookup` is core's `List.lookup` (which tests `k == k'` where the model tests `k' == k`). -/
theorem Json.lookup_eq : ∀ (kvs : List (Name × Json)) (k : Name), Json.lookup kvs k = kvs.lookup k
  | [], _ => rfl
  | (k', v) :: rest, k => by
    rw [Json.lookup, List.lookup_cons, Json.lookup_eq rest k, BEq.comm]
    cases k == k' <;> rfl

theorem mem_of_lookup {kvs : List (Name × Json)} {k : Name} {x : Json} (h : Json.lookup kvs k = some x) : (k, x) ∈ kvs := by
  obtain ⟨l₁, l₂, rfl, _⟩ := List.lookup_eq_some_iff.mp ((Json.lookup_eq kvs k).symm.trans h)
  exact List.mem_append_right _ List.mem_cons_self

theorem lookup_eq_none_iff {kvs : List (Name × Json)} {k : Name} : Json.lookup kvs k = none ↔ ∀ kv ∈ kvs, kv.1 ≠ k := by
  rw [Json.lookup_eq, List.lookup_eq_none_iff]
  exact forall₂_congr fun _ _ => by rw [bne_iff_ne, ne_comm]

theorem hasKey_iff_lookup (kvs : List (Name × Json)) (k : Name) : Json.hasKey kvs k = true ↔ ∃ x, Json.lookup kvs k = some x := by
  simp [Json.hasKey, Option.isSome_iff_exists]

theorem hasKey_of_mem {kvs : List (Name × Json)} {kv : Name × Json} (h : kv ∈ kvs) : Json.hasKey kvs kv.1 = true :=
  Option.isSome_iff_ne_none.mpr fun hn => lookup_eq_none_iff.mp hn kv h rfl

theorem declared_iff {kvs : List (Name × Json)} {fs : List Field} :
    kvs.all (fun kv => fs.any (·.wireS == kv.1)) = true ↔ ∀ kv ∈ kvs, ∃ f ∈ fs, f.wireS = kv.1 := by
  simp only [List.all_eq_true, List.any_eq_true, beq_iff_eq]

theorem mapE_cons_ok_iff {α β} {f : α → Except Err β} {x : α} {xs : List α} {ys : List β} :
    mapE f (x :: xs) = .ok ys ↔ ∃ y ys', f x = .ok y ∧ mapE f xs = .ok ys' ∧ ys = y :: ys' := by
  simp only [mapE, bind, Except.bind]
  cases hx : f x with
  | error e => simp
  | ok y =>
    cases hr : mapE f xs with
    | error e => simp
    | ok r =>
      simp only [Except.ok.injEq]
      constructor
      · intro h; exact ⟨y, r, rfl, rfl, h.symm⟩
      · rintro ⟨y', r', hy, hr', rfl⟩
        cases hy; cases hr'; rfl

theorem mapE_congr {α β} (f g : α → Except Err β) : ∀ xs : List α, (∀ x ∈ xs, f x = g x) → mapE f xs = mapE g xs
  | [], _ => rfl
  | x :: xs, h => by
    simp only [mapE, h x List.mem_cons_self, mapE_congr f g xs (fun y hy => h y (List.mem_cons_of_mem _ hy))]

theorem mapE_map {α β γ} (f : β → Except Err γ) (g : α → β) : ∀ xs : List α, mapE f (xs.map g) = mapE (fun x => f (g x)) xs
  | [] => rfl
  | x :: xs => by simp only [List.map, mapE, mapE_map f g xs]

theorem structFields_cons_ok_iff {recur : PyTy → Json → Except Err PyVal} {cls : Name} {kvs : List (Name × Json)}
    {f : Field} {fs : List Field} {vals : List (Name × PyVal)} :
    structFields recur cls kvs (f :: fs) = .ok vals ↔
      ∃ v rest, fieldVal recur cls kvs f = .ok v ∧ structFields recur cls kvs fs = .ok rest ∧ vals = (f.name, v) :: rest := by
  simp only [structFields]
  cases fieldVal recur cls kvs f <;> cases structFields recur cls kvs fs <;> simp [eq_comm]

theorem Except.bind_mono {ε α β} {x x' : Except ε α} {k k' : α → Except ε β} {b : β}
    (hx : ∀ a, x = .ok a → x' = .ok a) (hk : ∀ a, k a = .ok b → k' a = .ok b) (h : x >>= k = .ok b) :
    x' >>= k' = .ok b := by
  cases x with
  | error e => cases h
  | ok a => rw [hx a rfl]; exact hk a h

theorem zipE_mono {α β γ} {f g : α → β → Except Err γ} (h : ∀ a b c, f a b = .ok c → g a b = .ok c) :
    ∀ (as : List α) (bs : List β) (cs : List γ), zipE f as bs = .ok cs → zipE g as bs = .ok cs
  | [], _, _, h' => h'
  | _ :: _, [], _, h' => h'
  | a :: as, b :: bs, _, h' =>
    Except.bind_mono (h a b) (fun _ => Except.bind_mono (zipE_mono h as bs) (fun _ => id)) h'

theorem unstructFields_cons_ok_iff {r : Option PyTy → PyVal → Except Err Json} {vals : List (Name × PyVal)} {f : Field}
    {fs : List Field} {out : List (Name × Json)} :
    unstructFields r vals (f :: fs) = .ok out ↔ ∃ v, lookupAttr vals f.name = some v ∧
      if f.written v = true then
        ∃ x rest, r (some f.ty) v = .ok x ∧ unstructFields r vals fs = .ok rest ∧ out = (f.wireU, x) :: rest
      else unstructFields r vals fs = .ok out := by
  rw [unstructFields]
  cases lookupAttr vals f.name with
  | none => simp
  | some v =>
    simp only [Option.some.injEq, exists_eq_left']
    split
    · cases r (some f.ty) v <;> cases unstructFields r vals fs <;> simp [eq_comm]
    · rfl

theorem Field.written_iff (f : Field) (v : PyVal) :
    f.written v = false ↔ ∃ d, f.dflt.toVal = some d ∧ f.omitU = true ∧ PyVal.beq v d = true := by
  unfold Field.written
  cases f.dflt.toVal <;> simp

end LspVerif
