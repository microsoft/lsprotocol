/-
  Soundness of `chk`: a hook program that passes the checker, run on a JSON value that has a typed
  reading in the abstract state, returns a typed reading of the same value at the hooked annotation.
-/
import LspVerif.Props.Dispatch
import LspVerif.Props.StructLemmas
namespace LspVerif
open TestGen

mutual
/-- the induction measure of the totality theorem -/
def Json.size : Json → Nat
  | .arr xs => 1 + sizeL xs
  | .obj kvs => 1 + sizeK kvs
  | _ => 1
def sizeL : List Json → Nat
  | [] => 0
  | x :: xs => x.size + sizeL xs
def sizeK : List (Name × Json) → Nat
  | [] => 0
  | (_, x) :: rest => x.size + sizeK rest
end

theorem Json.size_pos (j : Json) : 0 < j.size := by
  cases j <;> simp [Json.size] <;> omega

theorem size_mem_arr : ∀ (xs : List Json) (x : Json), x ∈ xs → x.size < (Json.arr xs).size
  | [], _, h => nomatch h
  | y :: ys, x, h => by
    rcases List.mem_cons.mp h with rfl | hm
    · simp [Json.size, sizeL]; omega
    · have := size_mem_arr ys x hm
      simp [Json.size, sizeL] at this ⊢; omega

theorem size_mem_obj : ∀ (kvs : List (Name × Json)) (kv : Name × Json), kv ∈ kvs → kv.2.size < (Json.obj kvs).size
  | [], _, h => nomatch h
  | (k, y) :: rest, kv, h => by
    rcases List.mem_cons.mp h with rfl | hm
    · simp [Json.size, sizeK]; omega
    · have := size_mem_obj rest kv hm
      simp [Json.size, sizeK] at this ⊢; omega

theorem size_lookup {kvs : List (Name × Json)} {k : Name} {x : Json} (h : Json.lookup kvs k = some x) :
    x.size < (Json.obj kvs).size :=
  size_mem_obj kvs (k, x) (mem_of_lookup h)

section
variable (E : Env) (bad : List PyTy)

def Goal (ty : PyTy) (j : Json) : Prop := ∃ v', Str E ty j v' ∧ Rep E bad ty v' j

def Valid (ty : PyTy) (j : Json) : Prop := ∃ w n, rep E bad n ty w j = true

end

section
variable {E : Env} {bad : List PyTy}

theorem inTy_sound {T0 B : PyTy} (h : inTy bad T0 B = true) {v : PyVal} {j : Json} (hr : Rep E bad B v j) : Rep E bad T0 v j := by
  simp only [inTy, Bool.or_eq_true, Bool.and_eq_true, Bool.not_eq_true'] at h
  rcases h with he | ⟨hb, hm⟩
  · exact PyTy.eqb_sound he ▸ hr
  · split at hm
    · exact .of_alt hb (any_eqb_sound hm) hr
    · cases hm

theorem inUnion_inv {T0 B : PyTy} (h : inUnion bad T0 B = true) :
    ∃ ts, T0 = .union ts ∧ isBad bad T0 = false ∧ B ∈ ts ∧ PyTy.optionalOf ts = Option.none := by
  simp only [inUnion, Bool.and_eq_true, Bool.not_eq_true'] at h
  obtain ⟨hb, hm⟩ := h
  split at hm
  · rw [Bool.and_eq_true, Option.isNone_iff_eq_none] at hm
    exact ⟨_, rfl, hb, any_eqb_sound hm.1, hm.2⟩
  · cases hm

theorem Rep.altsOf {t : PyTy} {w : PyVal} {x : Json} (h : Rep E bad t w x) : ∃ a ∈ altsOf t, ∃ w', Rep E bad a w' x := by
  cases t with
  | union ts => exact h.union_alt
  | _ => exact ⟨_, List.mem_singleton.mpr rfl, w, h⟩

theorem tupleInts_ok {ts vs xs} (h : F3 (Rep E bad) ts vs xs) (hi : ts.all PyTy.isIntTy = true) :
    mapE coerceIntJ xs = .ok vs ∧ xs.length = ts.length := by
  induction h with
  | nil => exact ⟨rfl, rfl⟩
  | @cons t _ _ _ _ _ h1 _ ih =>
    rw [List.all_cons, Bool.and_eq_true] at hi
    obtain ⟨ih1, ih2⟩ := ih hi.2
    have ht : t.isIntTy = true := hi.1
    unfold PyTy.isIntTy at ht
    split at ht
    · cases (Rep_iff.mp h1).2
      exact ⟨mapE_ok_iff.mpr (.cons rfl (mapE_ok_iff.mp ih1)), congrArg (· + 1) ih2⟩
    · cases ht

end

variable (E : Env) (bad : List PyTy)

/-- What `structAs B` needs of `converter.structure` comes as two hypotheses: at `j` itself, and at
    every strictly smaller value (Props/Total.lean is an induction on `Json.size`).  At `j` itself
    that theorem has only the non-union annotations to offer (a union is dispatched by a program,
    which is where this theorem is used), so `top` forbids `structAs` of a union until `mapEach` has
    gone down to the elements.  `ok` is the test `chk` applies to `B` and `P` what it establishes:
    abstract, so that this file does not depend on the closure check `lightOK`. -/
theorem chk_sound (ok : PyTy → Bool) (P : PyTy → Prop) (hokP : ∀ B, ok B = true → P B) :
    ∀ (h : HExpr) (top : Bool) (T0 : PyTy) (st : St) (j : Json),
      (∀ B, P B → (top = true → B.isUnionTy = false) → Valid E bad B j → Goal E bad B j) →
      (∀ x, x.size < j.size → ∀ B, P B → Valid E bad B x → Goal E bad B x) →
      chk E bad ok top h T0 st = true → St.Holds E bad st j →
      ∃ v', (∃ m, h.run (structTy E m) j = .ok v') ∧ Rep E bad T0 v' j
  | .ite c a b, top, T0, st, j, HL, HS, hc, hst => by
    simp only [chk] at hc
    split at hc
    · rename_i T F hsp
      simp only [Bool.and_eq_true, List.all_eq_true] at hc
      rcases split_sound c st T F hst hsp with ⟨he, t, ht, hh⟩ | ⟨he, f, hf, hh⟩
      · obtain ⟨v', hm, hr⟩ := chk_sound ok P hokP a top T0 t j HL HS (hc.1 t ht) hh
        exact ⟨v', Run.ite he hm, hr⟩
      · obtain ⟨v', hm, hr⟩ := chk_sound ok P hokP b top T0 f j HL HS (hc.2 f hf) hh
        exact ⟨v', Run.ite he hm, hr⟩
    · cases hc
  | .retNone, top, T0, st, j, HL, HS, hc, hst => by
    simp only [chk, Bool.and_eq_true] at hc
    obtain ⟨v, hr⟩ := hst.rep
    obtain ⟨hty, hin⟩ := hc
    split at hty
    · rename_i hty'
      rw [hty'] at hr
      obtain ⟨rfl, rfl⟩ := hr.none_ty
      exact ⟨.none, ⟨0, rfl⟩, inTy_sound hin hr⟩
    · cases hty
  | .retSelf, top, T0, st, j, HL, HS, hc, hst => by
    simp only [chk, Bool.or_eq_true, Bool.and_eq_true] at hc
    obtain ⟨v, hr⟩ := hst.rep
    refine ⟨PyVal.ofJson j, ⟨0, rfl⟩, ?_⟩
    rcases hc with ⟨hs, hin⟩ | hc
    · exact inTy_sound hin (selfRep_sound hs hr)
    · split at hc
      · -- an enum member is returned raw: the reading is the member whose value is `j`
        rename_i hty
        rw [hty] at hr hc
        obtain ⟨ts, rfl, hb, hmem, ho⟩ := inUnion_inv hc
        cases hr.shape with
        | @enum _ _ val =>
          cases val with
          | s s => exact Rep_iff.mpr ⟨hb, .rawS ho hmem hr⟩
          | i i => exact Rep_iff.mpr ⟨hb, .rawI ho hmem hr⟩
      · -- `float` beside `int`: an integral number is returned as the `int` it is
        rename_i hty
        rw [hty] at hr
        simp only [Bool.and_eq_true, Bool.not_eq_true'] at hc
        obtain ⟨⟨hif, hii⟩, hbi⟩ := hc
        cases hr.shape with
        | floatI a => exact inTy_sound hii (Rep_iff.mpr ⟨hbi, .int a⟩)
        | floatD a => exact inTy_sound hif hr
      · cases hc
  | .retEmptyList, top, T0, st, j, HL, HS, hc, hst => by
    simp only [chk] at hc
    obtain ⟨v, hr⟩ := hst.rep
    have hl := hst.len
    split at hc
    · rename_i hty
      simp only [Bool.and_eq_true, beq_iff_eq] at hc
      simp only [hc.1] at hl
      subst hl
      rw [hty] at hr hc
      cases hr.shape with
      | seq hf =>
        cases hf
        exact ⟨.list [], ⟨0, rfl⟩, inTy_sound hc.2 hr⟩
    · cases hc
  | .strOf, top, T0, st, j, HL, HS, hc, hst => by
    simp only [chk, Bool.and_eq_true] at hc
    obtain ⟨v, hr⟩ := hst.rep
    obtain ⟨hty, hin⟩ := hc
    split at hty
    · rename_i hty'
      rw [hty'] at hr
      cases hr.shape
      exact ⟨_, ⟨0, rfl⟩, inTy_sound hin hr⟩
    · cases hty
  | .structAs B, top, T0, st, j, HL, HS, hc, hst => by
    simp only [chk, Bool.and_eq_true] at hc
    obtain ⟨⟨⟨hu, hsub⟩, hin⟩, htop⟩ := hc
    have hnu : top = true → B.isUnionTy = false := fun ht => by simpa [ht] using htop
    obtain ⟨v', hm, hr⟩ := HL B (hokP B hu) hnu (subOK_sound hst hsub)
    exact ⟨v', Run.structAs hm, inTy_sound hin hr⟩
  | .mapEach e, top, T0, st, j, HL, HS, hc, hst => by
    simp only [chk] at hc
    obtain ⟨v, hr⟩ := hst.rep
    split at hc
    · rename_i hty
      simp only [List.any_eq_true, Bool.and_eq_true, Bool.not_eq_true', List.all_eq_true] at hc
      obtain ⟨t', _, ⟨⟨hin, hnb⟩, hall⟩⟩ := hc
      rw [hty] at hr
      cases hr.shape with
      | @seq _ vs xs hf =>
        obtain ⟨ws, hws⟩ := F2.exists fun x hx => by
          obtain ⟨w, _, hw⟩ := hf.mem_right x hx
          obtain ⟨a, haa, w', hw'⟩ := hw.altsOf
          have hlt := size_mem_arr xs x hx
          exact chk_sound ok P hokP e false t' { ty := a } x
            (fun B hB _ hvB => HS x hlt B hB hvB)
            (fun y hy B hB hvB => HS y (Nat.lt_trans hy hlt) B hB hvB)
            (hall a haa) (.of_rep hw')
        obtain ⟨hrun, hrs⟩ := hws.of_and
        exact ⟨.list ws, Run.mapEach hrun, inTy_sound hin (Rep_iff.mpr ⟨hnb, .seq hrs.flip⟩)⟩
    · cases hc
  | .tupleInts k, top, T0, st, j, HL, HS, hc, hst => by
    simp only [chk] at hc
    obtain ⟨v, hr⟩ := hst.rep
    split at hc
    · rename_i hty
      simp only [Bool.and_eq_true, beq_iff_eq] at hc
      obtain ⟨⟨hlen, hints⟩, hin⟩ := hc
      rw [hty] at hr hin
      cases hr.shape with
      | @tuple _ vs xs hf =>
        obtain ⟨hmap, hl⟩ := tupleInts_ok hf hints
        cases hl.trans hlen
        exact ⟨.tuple vs, ⟨0, by simp [HExpr.run, hmap, bind, Except.bind]⟩, inTy_sound hin hr⟩
    · cases hc
  | .raise _, _, _, _, _, _, _, hc, _ => nomatch hc

end LspVerif
