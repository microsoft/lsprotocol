import LspVerif.Props.CattrsLemmas
namespace LspVerif

theorem structFields_congr {recur recur' : PyTy → Json → Except Err PyVal} {cls : Name}
    {kvs kvs' : List (Name × Json)} :
    ∀ (fs : List Field), (∀ f ∈ fs, fieldVal recur' cls kvs' f = fieldVal recur cls kvs f) →
      structFields recur' cls kvs' fs = structFields recur cls kvs fs
  | [], _ => rfl
  | f :: fs, h => by
    simp only [structFields, h f (List.mem_cons_self ..),
      structFields_congr fs (fun g hg => h g (List.mem_cons_of_mem _ hg))]

theorem structCls_congr (E : Env) {recur recur' : PyTy → Json → Except Err PyVal} (c : Cls)
    {kvs kvs' : List (Name × Json)} (hf : c.forbidExtra = false)
    (h : ∀ f ∈ c.fields, fieldVal recur' c.name kvs' f = fieldVal recur c.name kvs f) :
    structCls E recur' c (.obj kvs') = structCls E recur c (.obj kvs) := by
  simp only [structCls, structObj, hf, Bool.false_and, structFields_congr c.fields h]

theorem structCls_ignores_undeclared (E : Env) (recur : PyTy → Json → Except Err PyVal) (c : Cls)
    (kvs kvs' : List (Name × Json)) (hf : c.forbidExtra = false)
    (h : ∀ f ∈ c.fields, Json.lookup kvs' f.wireS = Json.lookup kvs f.wireS) :
    structCls E recur c (.obj kvs') = structCls E recur c (.obj kvs) :=
  structCls_congr E c hf (fun f hm => by simp only [fieldVal, h f hm])

theorem unstructFields_keys (recur : Option PyTy → PyVal → Except Err Json) (vals : List (Name × PyVal)) :
    ∀ (fs : List Field) (out : List (Name × Json)), unstructFields recur vals fs = .ok out →
      out.map (·.1) = (fs.filter (fun f => match lookupAttr vals f.name with
                                            | some v => f.written v
                                            | Option.none => false)).map (·.wireU)
  | [], out, h => by cases h; rfl
  | f :: fs, out, h => by
    have ih := unstructFields_keys recur vals fs
    obtain ⟨v, hv, h⟩ := unstructFields_cons_ok_iff.mp h
    rw [List.filter_cons]
    simp only [hv]
    by_cases hw : f.written v = true
    · rw [if_pos hw] at h ⊢
      obtain ⟨x, rest, _, hr, rfl⟩ := h
      rw [List.map_cons, List.map_cons, ih rest hr]
    · rw [if_neg hw] at h ⊢
      exact ih out h

theorem structFields_spec (recur : PyTy → Json → Except Err PyVal) (cls : Name) (kvs : List (Name × Json)) :
    ∀ (fs : List Field) (vals : List (Name × PyVal)), structFields recur cls kvs fs = .ok vals →
      ∀ (i : Nat) (f : Field), fs[i]? = some f → ∃ v, fieldVal recur cls kvs f = .ok v ∧ vals[i]? = some (f.name, v)
  | [], _, _, _, _, hf => nomatch hf
  | g :: gs, vals, h, i, f, hf => by
    obtain ⟨v, rest, hv, hr, rfl⟩ := structFields_cons_ok_iff.mp h
    cases i with
    | zero => cases hf; exact ⟨v, hv, rfl⟩
    | succ i => exact structFields_spec recur cls kvs gs rest hr i f hf

theorem runVlds_error_of_mem (E : Env) (recur : PyTy → Json → Except Err PyVal) (cls : Name)
    (kvs : List (Name × Json)) (f : Field)
    (hf : ∀ v, fieldVal recur cls kvs f = .ok v → ∃ e, runFieldVld E cls f v = .error e) :
    ∀ (fs : List Field) (vals : List (Name × PyVal)), f ∈ fs → structFields recur cls kvs fs = .ok vals →
      ∃ e, runVlds E cls fs vals = .error e
  | g :: gs, vals, hm, hs => by
    obtain ⟨v, rest, hv, hr, rfl⟩ := structFields_cons_ok_iff.mp hs
    simp only [runVlds]
    rcases List.mem_cons.mp hm with rfl | hm'
    · obtain ⟨e, he⟩ := hf v hv
      exact ⟨e, by rw [he]⟩
    · obtain ⟨e, he⟩ := runVlds_error_of_mem E recur cls kvs f hf gs rest hm' hr
      cases runFieldVld E cls g v with
      | error e' => exact ⟨e', rfl⟩
      | ok _ => exact ⟨e, he⟩

/-- `hf` covers both ways a field has no acceptable value: `fieldVal` fails (key missing without default, handler raises), or
    the field's validator rejects the value. -/
theorem structCls_error_of_field (E : Env) (recur : PyTy → Json → Except Err PyVal) (c : Cls)
    (kvs : List (Name × Json)) (f : Field) (hm : f ∈ c.fields)
    (hf : ∀ v, fieldVal recur c.name kvs f = .ok v → ∃ e, runFieldVld E c.name f v = .error e) :
    ∃ e, structCls E recur c (.obj kvs) = .error e := by
  simp only [structCls, structObj]
  split
  · exact ⟨_, rfl⟩
  · cases hs : structFields recur c.name kvs c.fields with
    | error e => exact ⟨e, rfl⟩
    | ok vals =>
      obtain ⟨e, he⟩ := runVlds_error_of_mem E recur c.name kvs f hf c.fields vals hm hs
      exact ⟨e, by simp only [he]⟩

theorem structCls_error_of_missing (E : Env) (recur : PyTy → Json → Except Err PyVal) (c : Cls)
    (kvs : List (Name × Json)) (f : Field) (hm : f ∈ c.fields)
    (hl : Json.lookup kvs f.wireS = Option.none) (hd : f.dflt.toVal = Option.none) :
    ∃ e, structCls E recur c (.obj kvs) = .error e :=
  structCls_error_of_field E recur c kvs f hm (fun v hv => by simp only [fieldVal, hl, hd] at hv; cases hv)

theorem lookupEnum_ok_iff (pe : PyEnum) (x : EnumVal) :
    (∃ v, lookupEnum pe x = .ok v) ↔ pe.members.any (·.2 == x) = true := by
  unfold lookupEnum
  split <;> simp [*]

theorem structTy_enum_str (E : Env) (n : Nat) (e : Name) (pe : PyEnum) (s : Name)
    (hh : E.hookFor (.enum e) = Option.none) (hp : E.pkg.findEnum e = some pe) :
    (∃ v, structTy E (n + 1) (.enum e) (.str s) = .ok v) ↔ pe.members.any (·.2 == .s s) = true := by
  simp only [structTy, hh, hp]
  exact lookupEnum_ok_iff pe _

theorem structTy_enum_int (E : Env) (n : Nat) (e : Name) (pe : PyEnum) (i : Int)
    (hh : E.hookFor (.enum e) = Option.none) (hp : E.pkg.findEnum e = some pe) :
    (∃ v, structTy E (n + 1) (.enum e) (.int i) = .ok v) ↔ pe.members.any (·.2 == .i i) = true := by
  simp only [structTy, hh, hp]
  exact lookupEnum_ok_iff pe _

/-- The shape of the hooks registered for `Union[Enum, base]` positions:
    None passes, primitives pass unchanged, anything else is structured as the enum. -/
def HExpr.primPassthrough : HExpr → Bool
  | .ite (.isNone .self) .retNone (.ite (.isInst .self ks) .retSelf _) => ks.contains .str && ks.contains .int
  | _ => false

theorem primPassthrough_run (h : HExpr) (recur : PyTy → Json → Except Err PyVal) (j : Json)
    (hp : h.primPassthrough = true) (hj : j.kind = .str ∨ j.kind = .int) : h.run recur j = .ok (PyVal.ofJson j) := by
  unfold HExpr.primPassthrough at hp
  split at hp
  · rename_i ks _
    simp only [Bool.and_eq_true] at hp
    have hk : ks.contains j.kind = true := hj.elim (· ▸ hp.1) (· ▸ hp.2)
    have hn : (Cond.isNone .self).eval j = .ok false := by
      cases j <;> first | rfl | (rcases hj with hj | hj <;> cases hj)
    have hi : (Cond.isInst .self ks).eval j = .ok true := congrArg Except.ok hk
    simp only [HExpr.run, hn, hi, bind, Except.bind, Bool.false_eq_true, if_false, if_true]
  · cases hp

/-- C13, open enumerations: at a position annotated `Union[E, base]` (not an `Optional`) whose
    registered hook has the pass-through shape, any string (resp. int) is accepted and comes back unchanged. -/
theorem open_enum_roundtrip_str (E : Env) (n : Nat) (ty : PyTy) (h : HExpr) (s : Name)
    (hh : E.hookFor ty = some h) (hp : h.primPassthrough = true) (hu : ∃ ts, ty = .union ts ∧ PyTy.optionalOf ts = Option.none) :
    structTy E (n + 1) ty (.str s) = .ok (.str s) ∧ unstruct E (n + 2) (some ty) (.str s) = .ok (.str s) := by
  obtain ⟨ts, rfl, hopt⟩ := hu
  constructor
  · simp only [structTy, hh]
    exact primPassthrough_run h _ (.str s) hp (.inl rfl)
  · simp only [unstruct, hopt, rawJson]

theorem open_enum_roundtrip_int (E : Env) (n : Nat) (ty : PyTy) (h : HExpr) (i : Int)
    (hh : E.hookFor ty = some h) (hp : h.primPassthrough = true) (hu : ∃ ts, ty = .union ts ∧ PyTy.optionalOf ts = Option.none) :
    structTy E (n + 1) ty (.int i) = .ok (.int i) ∧ unstruct E (n + 2) (some ty) (.int i) = .ok (.int i) := by
  obtain ⟨ts, rfl, hopt⟩ := hu
  constructor
  · simp only [structTy, hh]
    exact primPassthrough_run h _ (.int i) hp (.inr rfl)
  · simp only [unstruct, hopt, rawJson]

end LspVerif
