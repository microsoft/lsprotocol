/-
  Decidable facts about the tables of the converter environment, evaluated per run by the kernel.
  `noForbidExtra` (`C15_class_nodes`) and `unionSupported` (`supported_union_dispatch`) are connected to
  the semantics by a theorem here.  `probesDeclared` (with `Cond.lenOK`, `HExpr.lenGuarded`) and
  `enumSitesOK` are checks whose verdict is reported per run; no theorem rests on them (`C15_global`
  has its own side conditions, `kFreshEnv` and `clean`).
-/
import LspVerif.Props.Conv
import LspVerif.Spec.PySpec
namespace LspVerif

def noForbidExtra (P : Pkg) : Bool := !P.forbidExtra && P.classes.all (fun c => !c.forbidExtra)

def Path.keys : Path → List Name
  | .self => []
  | .idx p _ => p.keys
  | .key p k => k :: p.keys

def Cond.keys : Cond → List Name
  | .tt | .ff => []
  | .isNone p | .isInst p _ | .lenEq p _ => p.keys
  | .hasKey p k => k :: p.keys
  | .keyEq p k _ => k :: p.keys
  | .not c => c.keys
  | .and a b | .or a b => a.keys ++ b.keys

/-- `len(object_)` where object_ may be the dict itself: its value would depend on the *set* of keys. -/
def Cond.lenOfSelf : Cond → Bool
  | .lenEq .self _ => true
  | .not c => c.lenOfSelf
  | .and a b | .or a b => a.lenOfSelf || b.lenOfSelf
  | _ => false

def HExpr.keys : HExpr → List Name
  | .ite c a b => c.keys ++ a.keys ++ b.keys
  | .mapEach e => e.keys
  | _ => []

def onlyList (ks : List Kind) : Bool := ks.all (fun k => match k with | .list => true | _ => false) && !ks.isEmpty

mutual
def Cond.impliesList : Cond → Bool
  | .isInst .self ks => onlyList ks
  | .not c => Cond.refutesList c
  | .and a b => Cond.impliesList a || Cond.impliesList b
  | _ => false
/-- the condition being false implies that `object_` is a list -/
def Cond.refutesList : Cond → Bool
  | .not c => Cond.impliesList c
  | .or a b => Cond.refutesList a || Cond.refutesList b
  | _ => false
end

/-- every `len(object_)` inside the condition is evaluated only when `object_` is known to be a list
    (`g`: known before the condition; a left conjunct / disjunct adds what its outcome implies) -/
def Cond.lenOK : Bool → Cond → Bool
  | g, .lenEq .self _ => g
  | g, .not c => Cond.lenOK g c
  | g, .and a b => Cond.lenOK g a && Cond.lenOK (g || a.impliesList) b
  | g, .or a b => Cond.lenOK g a && Cond.lenOK (g || a.refutesList) b
  | _, _ => true

def HExpr.lenGuarded : Bool → HExpr → Bool
  | g, .ite c a b => c.lenOK g && HExpr.lenGuarded (g || c.impliesList) a && HExpr.lenGuarded (g || c.refutesList) b
  | _, .mapEach e => HExpr.lenGuarded false e
  | _, _ => true

def Model.propNames (M : Model) : List Name := M.structures.flatMap (fun s => s.props.map (·.name))

def probesDeclared (M : Model) (E : Env) : Bool :=
  let names := M.propNames
  (E.hooks ++ E.disamb).all (fun h => h.2.keys.all (fun k => names.contains k) && h.2.lenGuarded false)

theorem noForbidExtra_cls {P : Pkg} (h : noForbidExtra P = true) {c : Cls} (hc : c ∈ P.classes) :
    c.forbidExtra = false := by
  simp only [noForbidExtra, Bool.and_eq_true, List.all_eq_true, Bool.not_eq_true'] at h
  exact h.2 c hc

/-- C15 at every class node of the environment: an extra key that is no wire name of the class
    never changes the result of structuring an object as that class. -/
theorem C15_class_nodes (E : Env) (h : noForbidExtra E.pkg = true) :
    ∀ c ∈ E.pkg.classes, ∀ (recur : PyTy → Json → Except Err PyVal) (kvs : List (Name × Json)) (k : Name) (v : Json),
      (∀ f ∈ c.fields, (k == f.wireS) = false) →
      structCls E recur c (.obj ((k, v) :: kvs)) = structCls E recur c (.obj kvs) :=
  fun c hc recur kvs _ _ hk => structCls_ignores_undeclared E recur c kvs _ (noForbidExtra_cls h hc)
    (fun f hfm => Json.lookup_cons_ne (ne_of_beq_false (hk f hfm)) _ _)

theorem hasKey_self_congr (kvs kvs' : List (Name × Json)) (k : Name)
    (h : Json.lookup kvs' k = Json.lookup kvs k) :
    (Cond.hasKey .self k).eval (.obj kvs') = (Cond.hasKey .self k).eval (.obj kvs) :=
  congrArg (fun o => Except.ok (Option.isSome o)) h

theorem keyEq_self_congr (kvs kvs' : List (Name × Json)) (k s : Name)
    (h : Json.lookup kvs' k = Json.lookup kvs k) :
    (Cond.keyEq .self k s).eval (.obj kvs') = (Cond.keyEq .self k s).eval (.obj kvs) := by
  simp only [Cond.eval, Path.eval, h, bind, Except.bind]

def HExpr.isCattrsFailure : HExpr → Bool
  | .raise _ => true
  | _ => false

/-- A union annotation is supported when a hook is registered for it, or it is `Optional[X]`,
    or cattrs could build a disambiguator for it. -/
def unionSupported (E : Env) (ty : PyTy) : Bool :=
  match ty with
  | .union ts =>
    (E.hookFor ty).isSome ||
    (PyTy.optionalOf ts).isSome ||
    (ts.all PyTy.isAttrsOrNone && (match E.disambFor ty with | some h => !h.isCattrsFailure | Option.none => false))
  | _ => true

def PyTy.unions : Nat → PyTy → List PyTy
  | 0, _ => []
  | n + 1, t =>
    match t with
    | .union ts => t :: ts.flatMap (PyTy.unions n)
    | .seq e => PyTy.unions n e
    | .dict k v => PyTy.unions n k ++ PyTy.unions n v
    | .tuple ts => ts.flatMap (PyTy.unions n)
    | _ => []

/-- The unsupported unions among those structuring can reach *through the generated class functions*:
    the annotation of an attribute, and below it through Optional / Sequence / Dict / Tuple.
    (Members of a union that has a registered hook are reached only through that hook.) -/
def PyTy.reachableUnsupported (E : Env) : Nat → PyTy → List PyTy
  | 0, _ => []
  | n + 1, t =>
    match t with
    | .union ts =>
      if (E.hookFor t).isSome then []
      else if !unionSupported E t then [t]
      else match PyTy.optionalOf ts with
        | some x => PyTy.reachableUnsupported E n x
        | Option.none => []
    | .seq e => PyTy.reachableUnsupported E n e
    | .dict k v => PyTy.reachableUnsupported E n k ++ PyTy.reachableUnsupported E n v
    | .tuple ts => ts.flatMap (PyTy.reachableUnsupported E n)
    | _ => []

def classUnsupported (E : Env) (c : Cls) : List (Name × Name) :=
  c.fields.flatMap (fun f => (PyTy.reachableUnsupported E 10 f.ty).map (fun _ => (c.name, f.name)))

def allUnionsSupported (E : Env) : Bool :=
  E.pkg.classes.all (fun c => (classUnsupported E c).isEmpty)

/-- That `h` is not cattrs' failure stub, which `unionSupported` also checks, is not part of the statement. -/
theorem supported_union_dispatch (E : Env) (n : Nat) (ts : List PyTy) (j : Json)
    (hh : E.hookFor (.union ts) = Option.none) (ho : PyTy.optionalOf ts = Option.none)
    (hs : unionSupported E (.union ts) = true) :
    ∃ h, E.disambFor (.union ts) = some h ∧ structTy E (n + 1) (.union ts) j = h.run (structTy E n) j := by
  simp only [unionSupported, hh, ho, Option.isSome_none, Bool.false_or, Bool.and_eq_true] at hs
  obtain ⟨hall, hd⟩ := hs
  cases hdis : E.disambFor (.union ts) with
  | none => rw [hdis] at hd; cases hd
  | some h =>
    refine ⟨h, rfl, ?_⟩
    simp only [structTy, hh, ho, hall, hdis, if_true]

def Ty.enumRef (M : Model) : Ty → Option (Enum × (PyTy → PyTy))
  | .ref r => (M.findEnum r).map (fun e => (e, id))
  | .array (.ref r) => (M.findEnum r).map (fun e => (e, PyTy.seq))
  | .map k (.ref r) => (M.findEnum r).map (fun e => (e, PyTy.dict (pyTyOf M tyFuel k)))
  | _ => Option.none

/-- Closed enumeration ⇒ the position is annotated with the enum itself (no primitive escape hatch);
    open ⇒ `Union[E, base]` with a registered hook of the pass-through shape. -/
def enumSiteOK (M : Model) (E : Env) (c : Cls) (p : Prp) : Bool :=
  match p.ty.enumRef M with
  | Option.none => true
  | some (e, wrap) =>
    match c.fields.filter (·.wireS == p.name) with
    | [f] =>
      let inner : PyTy := if e.custom then PyTy.mkUnion [.enum e.name, basePy e.base] else .enum e.name
      let exp := if p.opt then (wrap inner).optional else wrap inner
      PyTy.beq f.ty exp &&
      (if e.custom then (match E.hookFor inner with | some h => h.primPassthrough | Option.none => false)
       else (E.hookFor inner).isNone)
    | _ => false

def enumSitesOK (M : Model) (E : Env) (s : Struct) : Bool :=
  match E.pkg.findCls s.name with
  | some c => (flatten M s).all (enumSiteOK M E c)
  | Option.none => false

def enumSiteCount (M : Model) : Nat :=
  (M.structures.flatMap (fun s => (flatten M s).filter (fun p => (p.ty.enumRef M).isSome))).length

end LspVerif
