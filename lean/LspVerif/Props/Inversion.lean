/-
  Inversion of the Boolean forms the checks of Spec/Link.lean are written in: a `match` with one
  live arm (`… | _ => false`), two tests on one condition, `List.all`.  Generic in the live arm, so that
  they apply by unification to a hypothesis such as `validTyC M (m + 1) (.array e) j = true` or
  `structCovers M E bad s = true` without unfolding it.
-/
import LspVerif.Core.Py
import LspVerif.Core.Json
namespace LspVerif

theorem Json.arr_of_match {P : List Json → Bool} {j : Json} (h : (match j with | .arr xs => P xs | _ => false) = true) :
    ∃ xs, j = .arr xs ∧ P xs = true := by
  split at h
  · exact ⟨_, rfl, h⟩
  · cases h

theorem Json.obj_of_match {P : List (Name × Json) → Bool} {j : Json} (h : (match j with | .obj kvs => P kvs | _ => false) = true) :
    ∃ kvs, j = .obj kvs ∧ P kvs = true := by
  split at h
  · exact ⟨_, rfl, h⟩
  · cases h

/-- For `Option Cls` only: stated for `Option α` it does not unify with the `match`es in the definitions of Spec/Link.lean. -/
theorem Cls.of_match {P : Cls → Bool} {o : Option Cls} (h : (match o with | some cl => P cl | Option.none => false) = true) :
    ∃ cl, o = some cl ∧ P cl = true := by
  cases o with
  | none => cases h
  | some a => exact ⟨a, rfl, h⟩

theorem ite_imp {c : Prop} [Decidable c] {a b a' b' : Bool} (h1 : c → a = true → a' = true) (h2 : ¬c → b = true → b' = true) :
    (if c then a else b) = true → (if c then a' else b') = true := by
  by_cases h : c
  · rw [if_pos h, if_pos h]; exact h1 h
  · rw [if_neg h, if_neg h]; exact h2 h

theorem ite_imp₂ {c : Prop} [Decidable c] {a b a' b' : Bool} {P : Prop} (h1 : c → a = true → a' = true → P)
    (h2 : ¬c → b = true → b' = true → P) : (if c then a else b) = true → (if c then a' else b') = true → P := by
  by_cases h : c
  · rw [if_pos h, if_pos h]; exact h1 h
  · rw [if_neg h, if_neg h]; exact h2 h

theorem all_imp {α} {f g : α → Bool} {xs : List α} (h : ∀ x, f x = true → g x = true) (hf : xs.all f = true) : xs.all g = true :=
  List.all_eq_true.mpr fun x hx => h x (List.all_eq_true.mp hf x hx)

end LspVerif
