/-
  The link theorem: a JSON value that is valid under the metamodel (strictly, closed: Spec/Link.lean)
  has a typed reading at the annotation the generated package gives it —

      structsCover M E bad  →  annOK M E bad n T A  →  validTyC M m T j  →  keys distinct in j  →
          ∃ v, Rep E bad A v j      (`Reads`: with the shape of `v` at a scalar `T`, for the validators)

  for every metamodel type `T`, every annotation `A` covering it and every JSON value `j` (any size,
  any nesting), by induction on the fuel of the validity check.  With T1/T2 this makes the round-trip
  theorem speak about metamodel-valid values: the quantifier of C01, C02, C03, C14.

  `structsCover` (and `requestCovered` … for the message classes) are kernel-evaluated per run on the
  regenerated metamodel and package; `hI`/`hU` (the two range validators accept their range) are proved
  per run from the validator bodies translated from validators.py (`Sh_link_int32`, `Sh_link_uint31`, tools/convprop.py).
-/
import LspVerif.Spec.Link
import LspVerif.Props.RepLemmas
import LspVerif.Props.Inversion
namespace LspVerif
open TestGen

variable (M : Model) (E : Env) (bad : List PyTy)

/-- keys distinct at every object node of `j` (`Json.wfF` at some fuel): what `json.loads` returns -/
def Wf (j : Json) : Prop := ∃ w, Json.wfF w j = true

theorem Wf.arr {xs : List Json} (h : Wf (.arr xs)) : ∀ x ∈ xs, Wf x := by
  obtain ⟨w, hw⟩ := h
  cases w with
  | zero => cases hw
  | succ w => exact fun x hx => ⟨w, List.all_eq_true.mp hw x hx⟩

theorem Wf.obj {kvs : List (Name × Json)} (h : Wf (.obj kvs)) : keysNodup kvs = true ∧ ∀ kv ∈ kvs, Wf kv.2 := by
  obtain ⟨w, hw⟩ := h
  cases w with
  | zero => cases hw
  | succ w =>
    obtain ⟨h1, h2⟩ := Bool.and_eq_true_iff.mp hw
    exact ⟨h1, fun kv hkv => ⟨w, List.all_eq_true.mp h2 kv hkv⟩⟩

theorem Wf.lookup {kvs : List (Name × Json)} (h : Wf (.obj kvs)) {k : Name} {x : Json} (hl : Json.lookup kvs k = some x) : Wf x :=
  h.obj.2 (k, x) (mem_of_lookup hl)

theorem lookup_mem' : ∀ (kvs : List (Name × Json)) (k : Name) (x : Json), Json.lookup kvs k = some x → ∃ k', (k', x) ∈ kvs ∧ k' = k :=
  fun _ k _ h => ⟨k, mem_of_lookup h, rfl⟩

theorem lookup_some_of_mem : ∀ (kvs : List (Name × Json)) (kv : Name × Json), kv ∈ kvs → ∃ x, Json.lookup kvs kv.1 = some x :=
  fun kvs kv h => (hasKey_iff_lookup kvs kv.1).mp (hasKey_of_mem h)

/-- The reading the link theorem builds at a scalar.  The attrs validators see the Python value, and at `Union[int, float]` the
    JSON `1` also has a float reading, which `integer_validator` rejects: the theorem remembers which reading it built. -/
def vshape : Ty → Json → PyVal → Prop
  | .base .integer, j, v => ∃ i, j = .int i ∧ v = .int i
  | .base .uinteger, j, v => ∃ i, j = .int i ∧ v = .int i
  | .base .string, _, v => ∃ s, v = .str s
  | .base .documentUri, _, v => ∃ s, v = .str s
  | .base .uri, _, v => ∃ s, v = .str s
  | .base .boolean, _, v => ∃ b, v = .bool b
  | .base .decimal, _, v => ∃ d, v = .float d
  | .strLit s, _, v => v = .str s
  | _, _, _ => True

def Reads (T : Ty) (A : PyTy) (j : Json) : Prop := ∃ v k, rep E bad k A v j = true ∧ vshape T j v

section
variable {M E bad}

theorem hasAlt_sound {A t : PyTy} (h : hasAlt bad A t = true) : isBad bad t = false ∧ t ∈ alts A := by
  simp only [hasAlt, Bool.and_eq_true, Bool.not_eq_true'] at h
  exact ⟨h.1, any_eqb_sound h.2⟩

theorem Rep.of_alts {A u : PyTy} {v : PyVal} {j : Json} (hb : isBad bad A = false) (hu : u ∈ alts A) (h : Rep E bad u v j) :
    Rep E bad A v j := by
  cases A with
  | union us => exact Rep.of_alt hb hu h
  | _ => cases List.mem_singleton.mp hu; exact h

theorem Reads.of_rep {T : Ty} {A : PyTy} {j : Json} {v : PyVal} (hr : Rep E bad A v j) (hs : vshape T j v) : Reads E bad T A j :=
  hr.elim fun k hr => ⟨v, k, hr, hs⟩

theorem Reads.rep {T : Ty} {A : PyTy} {j : Json} (h : Reads E bad T A j) : ∃ v, Rep E bad A v j :=
  let ⟨v, k, hr, _⟩ := h; ⟨v, k, hr⟩

theorem base_rep {b : Base} {j : Json} (hv : validBase b j = true) (hm : b.mapped = true) :
    ∃ v, RepShape E (Rep E bad) (basePy b) v j ∧ vshape (.base b) j v := by
  unfold validBase at hv
  -- the clauses of `validBase`: string, documentUri, uri, regExp, integer, uinteger, decimal (int), decimal (dec), boolean, null, rest
  split at hv
  case h_1 s | h_2 s | h_3 s => exact ⟨_, .str s, s, rfl⟩
  case h_4 => cases hm
  case h_5 i | h_6 i => exact ⟨_, .int i, i, rfl, rfl⟩
  case h_7 i => exact ⟨_, .floatI i, _, rfl⟩
  case h_8 d => exact ⟨_, .floatD d, _, rfl⟩
  case h_9 x => exact ⟨_, .bool x, x, rfl⟩
  case h_10 => exact ⟨_, .none, trivial⟩
  case h_11 => cases hv

theorem Ty.isInt32_inv {T : Ty} (h : T.isInt32 = true) : T = .base .integer ∨ T = .base .uinteger := by
  unfold Ty.isInt32 at h; split at h <;> simp at h ⊢
theorem Ty.isUInt31_inv {T : Ty} (h : T.isUInt31 = true) : T = .base .uinteger := by
  unfold Ty.isUInt31 at h; split at h <;> simp at h ⊢
theorem Ty.isStrLike_inv {T : Ty} {j : Json} {v : PyVal} (h : T.isStrLike = true) (hs : vshape T j v) : ∃ s, v = .str s := by
  unfold Ty.isStrLike at h; split at h <;> first | exact hs | exact ⟨_, hs⟩ | cases h
theorem Ty.isBoolean_inv {T : Ty} (h : T.isBoolean = true) : T = .base .boolean := by
  unfold Ty.isBoolean at h; split at h <;> simp at h ⊢
theorem Ty.isDecimal_inv {T : Ty} (h : T.isDecimal = true) : T = .base .decimal := by
  unfold Ty.isDecimal at h; split at h <;> simp at h ⊢
theorem Ty.litIn_inv {T : Ty} {vs : List Name} (h : T.litIn vs = true) : ∃ s, T = .strLit s ∧ s ∈ vs := by
  unfold Ty.litIn at h; split at h
  · exact ⟨_, rfl, List.contains_iff_mem.mp h⟩
  · cases h

theorem inInt32_of_inUInt31 {i : Int} (h : inUInt31 i = true) : inInt32 i = true := by
  simp only [inUInt31, inInt32, Bool.and_eq_true, decide_eq_true_eq] at h ⊢
  omega

theorem vldAccepts_of_core {vl : Vld} {v : PyVal} {pv : PV} (hpv : v.toPV = some pv) (hne : pv ≠ .none)
    (h : (runVld E.vld vl.core pv).accepted = true) : vldAccepts E vl v = true := by
  cases vl with
  | none => rfl
  | opt w => simp only [vldAccepts, hpv]; rwa [runVld_opt hne]
  | _ => simp only [vldAccepts, hpv]; exact h

theorem vld_accepts_none {cls : Name} {f : Field} (h : f.vld.acceptsNone = true) : runFieldVld E cls f .none = .ok () := by
  rw [runFieldVld_iff]
  generalize f.vld = vl at h
  cases vl <;> first | rfl | cases h

theorem nullish_of_valid : ∀ (n m : Nat) (T : Ty), validTyC M m T .null = true → nullish M n T = true
  | 0, _, _, _ => rfl
  | _ + 1, 0, _, h => by cases h
  | n + 1, m + 1, T, h => by
    cases T with
    | base b => cases b <;> first | rfl | cases h
    | or ts =>
      obtain ⟨a, ha, hva⟩ := List.any_eq_true.mp h
      exact List.any_eq_true.mpr ⟨a, ha, nullish_of_valid n m a hva⟩
    | ref r =>
      revert h
      refine ite_imp (fun _ => id) fun _ => ite_imp (fun _ => id) fun _ => ite_imp (fun _ => id) fun _ => ?_
      cases M.findEnum r with
      | some e =>
        dsimp only
        cases e.custom with
        | true => cases e.base <;> exact id
        | false => exact nofun
      | none =>
        cases M.findStruct r with
        | some s => exact id
        | none =>
          cases M.findAlias r with
          | some a => exact nullish_of_valid n m a.ty
          | none => exact id
    | _ => cases h

section
variable (hI : ∀ i, inInt32 i = true → (E.vld.int32 (.int i)).accepted = true)
  (hU : ∀ i, inUInt31 i = true → (E.vld.uint31 (.int i)).accepted = true)
include hI hU

theorem core_accepts {T : Ty} {w : Vld} {m : Nat} {j : Json} {v : PyVal} (hc : vldCoreOK T w = true) (hw : w ≠ .none)
    (hv : validTyC M (m + 1) T j = true) (hs : vshape T j v) :
    ∃ pv, v.toPV = some pv ∧ pv ≠ .none ∧ (runVld E.vld w pv).accepted = true := by
  cases w with
  | none => exact absurd rfl hw
  | opt _ => cases hc
  | other _ => cases hc
  | int32 =>
    rcases Ty.isInt32_inv hc with rfl | rfl <;> obtain ⟨i, rfl, rfl⟩ := hs
    · exact ⟨.int i, rfl, nofun, hI i hv⟩
    · exact ⟨.int i, rfl, nofun, hI i (inInt32_of_inUInt31 hv)⟩
  | uint31 =>
    cases Ty.isUInt31_inv hc
    obtain ⟨i, rfl, rfl⟩ := hs
    exact ⟨.int i, rfl, nofun, hU i hv⟩
  | instStr =>
    obtain ⟨s, rfl⟩ := Ty.isStrLike_inv hc hs
    exact ⟨.str s, rfl, nofun, rfl⟩
  | instBool =>
    cases Ty.isBoolean_inv hc
    obtain ⟨x, rfl⟩ := hs
    exact ⟨.bool x, rfl, nofun, rfl⟩
  | instFloat =>
    cases Ty.isDecimal_inv hc
    obtain ⟨d, rfl⟩ := hs
    exact ⟨.float 0, rfl, nofun, rfl⟩
  | inLit vs =>
    obtain ⟨s, rfl, hmem⟩ := Ty.litIn_inv hc
    cases (hs : v = .str s)
    exact ⟨.str s, rfl, nofun, by simp [runVld, VR.accepted, hmem]⟩

theorem vld_accepts {cls : Name} {f : Field} {T : Ty} {opt : Bool} {m : Nat} {j : Json} {v : PyVal}
    (hok : vldOKFor T opt f.vld = true) (hv : validTyC M m T j = true) (hs : vshape T j v) :
    runFieldVld E cls f v = .ok () := by
  rw [runFieldVld_iff]
  cases m with
  | zero => cases hv
  | succ m =>
  simp only [vldOKFor, Bool.and_eq_true] at hok
  obtain ⟨⟨_, hcore⟩, hno⟩ := hok
  by_cases hn : f.vld.core = .none
  · -- `none` itself (`optional(none)` is excluded by `vldOKFor`)
    cases hvl : f.vld with
    | none => rfl
    | opt w => rw [hvl] at hn hno; cases (hn : w = .none); cases hno
    | _ => rw [hvl] at hn; cases hn
  · obtain ⟨pv, hpv, hne, hacc⟩ := core_accepts hI hU hcore hn hv hs
    exact vldAccepts_of_core hpv hne hacc

/-- `IH` is the link theorem at the validity fuel of the members; `clsCoversW` supplies, attribute by attribute, what `FieldReads` and
    the validators ask for. -/
theorem props_rep {m : Nat}
    (IH : ∀ n T A j, annOK M E bad n T A = true → validTyC M m T j = true → Wf j → Reads E bad T A j)
    {n0 : Nat} {props : List (Name × Bool × Ty)} {c : Name} {cl : Cls} (hf : E.pkg.findCls c = some cl)
    (hc : clsCoversW (annOK M E bad n0) M E bad n0 props cl = true) {kvs : List (Name × Json)}
    (hv : validPropsC (validTyC M m) props kvs = true) (hw : Wf (.obj kvs)) :
    ∃ v, Rep E bad (.cls c) v (.obj kvs) := by
  simp only [clsCoversW, Bool.and_eq_true, Bool.not_eq_true', List.all_eq_true, List.any_eq_true, beq_iff_eq] at hc
  obtain ⟨⟨hnb, hpf⟩, hff⟩ := hc
  simp only [validPropsC, Bool.and_eq_true, List.all_eq_true, List.any_eq_true, beq_iff_eq] at hv
  obtain ⟨hkeys, hprops⟩ := hv
  have hfield : ∀ f ∈ cl.fields, ∃ av, FieldReads (Rep E bad) kvs f av ∧ runFieldVld E cl.name f av.2 = .ok () := by
    intro f hfm
    have hfc := hff f hfm
    cases hfind : props.find? (fun p => p.1 == f.wireS) with
    | none =>
      -- no such property: no such key, as every key is a property
      simp only [hfind, Bool.and_eq_true, beq_iff_eq] at hfc
      have hl : Json.lookup kvs f.wireS = Option.none := lookup_eq_none_iff.mpr fun kv hkv hk =>
        let ⟨p, hp, hpn⟩ := hkeys kv hkv
        List.find?_eq_none.mp hfind p hp (beq_iff_eq.mpr (hpn.trans hk))
      exact ⟨_, .of_none hl hfc.1.1 ⟨_, hfc.1.2⟩, vld_accepts_none hfc.2⟩
    | some p =>
      obtain ⟨hpm, hpn⟩ := find?_name Prod.fst _ _ _ hfind
      simp only [hfind, fieldCoversW, Bool.and_eq_true, Bool.or_eq_true, Bool.not_eq_true', beq_iff_eq] at hfc
      obtain ⟨⟨⟨hann, hopt⟩, hfaith⟩, hvld⟩ := hfc
      have hp := hprops p hpm
      rw [hpn] at hp
      cases hl : Json.lookup kvs f.wireS with
      | some x =>
        simp only [hl] at hp
        obtain ⟨v, k, hr, hs⟩ := IH n0 p.2.2 f.ty x hann hp (hw.lookup hl)
        refine ⟨_, .of_some hl ⟨k, hr⟩ (Field.faithfulJ_of (fun hd hx => ?_) fun s hd => ?_), vld_accepts hI hU hvld hp hs⟩
        · -- a `null` that the way back would drop is not valid here
          simp only [hd, Bool.or_eq_true, Bool.not_eq_true'] at hfaith
          exact hfaith.imp_left (·.resolve_left (ne_false_of_eq_true (nullish_of_valid n0 m p.2.2 (hx ▸ hp))))
        · simpa only [hd, Bool.not_eq_true'] using hfaith
      | none =>
        simp only [hl] at hp
        obtain ⟨hd, hnr⟩ := hopt.resolve_left (ne_false_of_eq_true hp)
        simp only [vldOKFor, Bool.and_eq_true, Bool.or_eq_true, Bool.not_eq_true'] at hvld
        exact ⟨_, .of_none hl hd ⟨_, hnr⟩, vld_accepts_none (hvld.1.1.resolve_left (ne_false_of_eq_true hp))⟩
  obtain ⟨vals, hvals⟩ := F2.exists hfield
  refine ⟨_, Rep_iff.mpr ⟨Pkg.findCls_name hf ▸ hnb, .cls hf hw.obj.1 (declared_iff.mpr fun kv hkv => ?_)
    (hvals.imp fun _ _ h => h.1) ((runVlds_iff hvals).mpr (hvals.imp fun _ _ h => h.2))⟩⟩
  obtain ⟨p, hp, hpn⟩ := hkeys kv hkv
  obtain ⟨f, hfm, hfw⟩ := hpf p hp
  exact ⟨f, hfm, hfw.trans hpn⟩

end

theorem enumHas_inv {e : Enum} {j : Json} (h : enumHas e j = true) : ∃ ev ∈ e.values, j = ev.value.toJson := by
  unfold enumHas at h
  split at h
  case h_3 => cases h
  all_goals
    obtain ⟨ev, hev, hval⟩ := List.any_eq_true.mp h
    exact ⟨ev, hev, beq_iff_eq.mp hval ▸ rfl⟩

theorem enum_rep {r : Name} {e : Enum} {j : Json} (he : M.findEnum r = some e)
    (hcov : enumCovered M E r = true) (hv : enumHas e j = true) : ∃ v, RepShape E (Rep E bad) (.enum r) v j := by
  obtain ⟨ev, hev, rfl⟩ := enumHas_inv hv
  unfold enumCovered at hcov
  split at hcov
  next e' pe he' hpe =>
    cases he.symm.trans he'
    exact ⟨_, .enum hpe (List.all_eq_true.mp hcov ev hev)⟩
  next => cases hcov

end

theorem F3.exists_of_zip {α β γ δ} {ann : α → β → Bool} {val : α → γ → Bool} {R : β → δ → γ → Prop}
    (ts : List α) (us : List β) (xs : List γ) (ha : all2 ann ts us = true)
    (hv : (ts.zip xs).all (fun p => val p.1 p.2) = true) (hl : xs.length = ts.length)
    (H : ∀ t u x, x ∈ xs → ann t u = true → val t x = true → ∃ v, R u v x) : ∃ vs, F3 R us vs xs := by
  have hF := all2_iff.mp ha
  clear ha
  induction hF generalizing xs with
  | nil => match xs, hl with | [], _ => exact ⟨[], .nil⟩
  | cons h1 _ ih =>
    match xs, hl with
    | x :: xs, hl =>
      rw [List.zip_cons_cons, List.all_cons, Bool.and_eq_true] at hv
      obtain ⟨v, hv1⟩ := H _ _ x List.mem_cons_self h1 hv.1
      obtain ⟨vs, hvs⟩ := ih xs hv.2 (Nat.succ.inj hl) fun t u y hy => H t u y (List.mem_cons_of_mem _ hy)
      exact ⟨v :: vs, .cons hv1 hvs⟩

theorem valid_rep (hS : structsCover M E bad = true)
    (hI : ∀ i, inInt32 i = true → (E.vld.int32 (.int i)).accepted = true)
    (hU : ∀ i, inUInt31 i = true → (E.vld.uint31 (.int i)).accepted = true) :
    ∀ (m n : Nat) (T : Ty) (A : PyTy) (j : Json), annOK M E bad n T A = true → validTyC M m T j = true → Wf j →
      Reads E bad T A j := by
  intro m
  induction m with
  | zero => intro _ _ _ _ _ hv; cases hv
  | succ m IH =>
    intro n T A j ha hv hw
    obtain ⟨n, rfl⟩ : ∃ n', n = n' + 1 := by cases n with | zero => cases ha | succ n => exact ⟨n, rfl⟩
    obtain ⟨hnb, ha⟩ := Bool.and_eq_true_iff.mp ha
    rw [Bool.not_eq_true'] at hnb
    have viaAlt : ∀ {u : PyTy} {v : PyVal}, u ∈ alts A → isBad bad u = false → RepShape E (Rep E bad) u v j → vshape T j v →
        Reads E bad T A j :=
      fun hu hb hr hs => .of_rep (.of_alts hnb hu (Rep_iff.mpr ⟨hb, hr⟩)) hs
    have viaHas : ∀ {u : PyTy} {v : PyVal}, hasAlt bad A u = true → RepShape E (Rep E bad) u v j → vshape T j v → Reads E bad T A j :=
      fun hh => viaAlt (hasAlt_sound hh).2 (hasAlt_sound hh).1
    have obj_rep : ∀ {props : List (Name × Bool × Ty)} {kvs : List (Name × Json)}, objCovered (annOK M E bad n) M E bad n props A = true →
        validPropsC (validTyC M m) props kvs = true → Wf (.obj kvs) → ∃ v, Rep E bad A v (.obj kvs) := by
      intro props kvs hoc hvp hw
      obtain ⟨u, hu, h2⟩ := List.any_eq_true.mp hoc
      split at h2
      next c =>
        obtain ⟨cl, hcl, hcov⟩ := Cls.of_match (Bool.and_eq_true_iff.mp h2).2
        exact (props_rep hI hU IH hcl hcov hvp hw).imp fun _ => .of_alts hnb hu
      next => cases h2
    cases T with
    | base b =>
      obtain ⟨hbm, hh⟩ := Bool.and_eq_true_iff.mp ha
      obtain ⟨v, hr, hs⟩ := base_rep hv hbm
      exact viaHas hh hr hs
    | strLit s =>
      unfold validTyC at hv
      dsimp only at hv
      split at hv
      next x =>
        cases beq_iff_eq.mp hv
        rcases Bool.or_eq_true_iff.mp ha with h1 | h2
        · exact viaHas h1 (.str s) rfl
        · obtain ⟨u, hu, h2⟩ := List.any_eq_true.mp h2
          split at h2
          next vs =>
            simp only [Bool.and_eq_true, Bool.not_eq_true'] at h2
            exact viaAlt hu h2.1 (.literal (List.contains_iff_mem.mp h2.2)) rfl
          next => cases h2
      next => cases hv
    | intLit _ | boolLit _ => cases ha
    | and ts =>
      obtain ⟨kvs, rfl, hp⟩ := Json.obj_of_match hv
      obtain ⟨v, hr⟩ := obj_rep (Bool.and_eq_true_iff.mp ha).2 hp hw
      exact .of_rep hr trivial
    | lit props =>
      obtain ⟨kvs, rfl, hp⟩ := Json.obj_of_match hv
      revert ha hp
      refine ite_imp₂ (fun _ ha _ => viaHas ha (.any (isOfJson_ofJson _)) trivial) fun _ ha hp => ?_
      obtain ⟨v, hr⟩ := obj_rep ha hp hw
      exact .of_rep hr trivial
    | or ts =>
      obtain ⟨a, ham, hva⟩ := List.any_eq_true.mp hv
      obtain ⟨v, hr⟩ := (IH n a A j (List.all_eq_true.mp ha a ham) hva hw).rep
      exact .of_rep hr trivial
    | array e =>
      obtain ⟨xs, rfl, hx⟩ := Json.arr_of_match hv
      obtain ⟨u, hu, h2⟩ := List.any_eq_true.mp ha
      split at h2
      next x =>
        simp only [Bool.and_eq_true, Bool.not_eq_true'] at h2
        obtain ⟨vs, hvs⟩ := F2.exists fun y hy => (IH n e x y h2.2 (List.all_eq_true.mp hx y hy) (hw.arr y hy)).rep
        exact viaAlt hu h2.1 (.seq hvs.flip) trivial
      next => cases h2
    | map kt vt =>
      obtain ⟨kvs, rfl, hx⟩ := Json.obj_of_match hv
      obtain ⟨u, hu, h2⟩ := List.any_eq_true.mp ha
      split at h2
      next x =>
        simp only [Bool.and_eq_true, Bool.not_eq_true'] at h2
        obtain ⟨ps, hps⟩ := F2.exists (R := fun kv p => EntryReads (Rep E bad) .str x p kv) fun kv hkv =>
          let ⟨v, hr⟩ := (IH n vt x kv.2 h2.2 (List.all_eq_true.mp hx kv hkv) (hw.obj.2 kv hkv)).rep
          ⟨(.str kv.1, v), fun _ => rfl, fun h => absurd rfl h, hr⟩
        exact viaAlt hu h2.1 (.dict hw.obj.1 hps.flip) trivial
      next => cases h2
    | tuple ts =>
      obtain ⟨xs, rfl, hx⟩ := Json.arr_of_match hv
      obtain ⟨hlen, hx⟩ := Bool.and_eq_true_iff.mp hx
      obtain ⟨u, hu, h2⟩ := List.any_eq_true.mp ha
      split at h2
      next us =>
        simp only [Bool.and_eq_true, Bool.not_eq_true'] at h2
        obtain ⟨vs, hvs⟩ := F3.exists_of_zip (R := Rep E bad) ts us xs h2.2 hx (beq_iff_eq.mp hlen) fun t u x hx hann hval =>
          (IH n t u x hann hval (hw.arr x hx)).rep
        exact viaAlt hu h2.1 (.tuple hvs) trivial
      next => cases h2
    | ref r =>
      revert hv ha
      refine ite_imp₂ (fun _ _ ha => viaHas ha (.any (isOfJson_ofJson j)) trivial) fun _ => ite_imp₂ (fun _ hv ha => ?_) fun _ =>
        ite_imp₂ (fun _ hv ha => ?_) fun _ => ?_
      · obtain ⟨kvs, rfl, _⟩ := Json.obj_of_match hv
        exact viaHas ha (.obj (isOfJson_ofJson _)) trivial
      · obtain ⟨xs, rfl, _⟩ := Json.arr_of_match hv
        obtain ⟨u, hu, h4⟩ := List.any_eq_true.mp ha
        split at h4
        next x =>
          simp only [Bool.and_eq_true, Bool.not_eq_true'] at h4
          obtain ⟨⟨hbu, hbx⟩, hany⟩ := h4
          obtain ⟨hba, hua⟩ := hasAlt_sound hany
          obtain ⟨vs, hvs⟩ := F2.exists (R := fun y v => Rep E bad x v y) (as := xs) fun y _ =>
            ⟨_, .of_alts hbx hua (Rep_iff.mpr ⟨hba, .any (isOfJson_ofJson y)⟩)⟩
          exact viaAlt hu hbu (.seq hvs.flip) trivial
        next => cases h4
      cases he : M.findEnum r with
      | some e =>
        refine ite_imp₂ (fun _ hv ha => ?_) fun _ hv ha => ?_
        · obtain ⟨hm, hh⟩ := Bool.and_eq_true_iff.mp ha
          obtain ⟨v, hr, _⟩ := base_rep hv hm
          exact viaHas hh hr trivial
        · obtain ⟨hh, hcov⟩ := Bool.and_eq_true_iff.mp ha
          obtain ⟨v, hr⟩ := enum_rep he hcov hv
          exact viaHas hh hr trivial
      | none =>
        cases hs : M.findStruct r with
        | some s =>
          intro hv ha
          obtain ⟨kvs, rfl, hp⟩ := Json.obj_of_match hv
          obtain ⟨hsm, rfl⟩ := find?_name Struct.name _ _ _ hs
          obtain ⟨cl, hcl, hcov⟩ := Cls.of_match (List.all_eq_true.mp hS s hsm)
          obtain ⟨v, hr⟩ := props_rep hI hU IH hcl hcov hp hw
          exact viaHas ha hr.shape trivial
        | none =>
          cases M.findAlias r with
          | some a =>
            intro hv ha
            obtain ⟨v, hr⟩ := (IH n a.ty A j ha hv hw).rep
            exact .of_rep hr trivial
          | none => exact nofun

section
variable {M E bad} (hS : structsCover M E bad = true)
  (hI : ∀ i, inInt32 i = true → (E.vld.int32 (.int i)).accepted = true)
  (hU : ∀ i, inUInt31 i = true → (E.vld.uint31 (.int i)).accepted = true)
include hS hI hU

theorem valid_cls_rep {props : List (Name × Bool × Ty)} {c : Name}
    (hc : (match E.pkg.findCls c with | some cl => clsCovers M E bad props cl | Option.none => false) = true)
    {m : Nat} {kvs : List (Name × Json)} (hv : validPropsC (validTyC M m) props kvs = true) (hw : Wf (.obj kvs)) :
    ∃ v, Rep E bad (.cls c) v (.obj kvs) := by
  obtain ⟨cl, hcl, hcov⟩ := Cls.of_match hc
  exact props_rep hI hU (valid_rep M E bad hS hI hU m) hcl hcov hv hw

theorem valid_object_rep {props : List (Name × Bool × Ty)} (hne : props.isEmpty = false) {c : Name}
    (hc : (match E.pkg.findCls c with | some cl => clsCovers M E bad props cl | Option.none => false) = true)
    {m : Nat} {j : Json} (hv : validTyC M m (.lit props) j = true) (hw : Wf j) :
    ∃ v, Rep E bad (.cls c) v j := by
  cases m with
  | zero => cases hv
  | succ m =>
    obtain ⟨kvs, rfl, hp⟩ := Json.obj_of_match hv
    rw [hne] at hp
    exact valid_cls_rep hS hI hU hc hp hw

end

theorem valid_request_rep (hS : structsCover M E bad = true)
    (hI : ∀ i, inInt32 i = true → (E.vld.int32 (.int i)).accepted = true)
    (hU : ∀ i, inUInt31 i = true → (E.vld.uint31 (.int i)).accepted = true)
    (r : Request) (hc : requestCovered M E bad r = true) (j : Json) (hv : validRequestC M r j = true) (hw : Wf j) :
    ∃ e, entryOf E r.method = some e ∧ ∃ v k, rep E bad k (.cls e.req) v j = true := by
  unfold requestCovered at hc
  split at hc
  next e he => exact ⟨e, he, valid_object_rep hS hI hU rfl hc hv hw⟩
  next => cases hc

theorem valid_response_rep (hS : structsCover M E bad = true)
    (hI : ∀ i, inInt32 i = true → (E.vld.int32 (.int i)).accepted = true)
    (hU : ∀ i, inUInt31 i = true → (E.vld.uint31 (.int i)).accepted = true)
    (r : Request) (hc : responseCovered M E bad r = true) (j : Json) (hv : validResponseC M r j = true) (hw : Wf j) :
    ∃ e rn, entryOf E r.method = some e ∧ e.resp = some rn ∧ ∃ v k, rep E bad k (.cls rn) v j = true := by
  unfold responseCovered at hc
  split at hc
  next e he =>
    split at hc
    next rn hrn => exact ⟨e, rn, he, hrn, valid_object_rep hS hI hU rfl hc hv hw⟩
    next => cases hc
  next => cases hc

theorem valid_notification_rep (hS : structsCover M E bad = true)
    (hI : ∀ i, inInt32 i = true → (E.vld.int32 (.int i)).accepted = true)
    (hU : ∀ i, inUInt31 i = true → (E.vld.uint31 (.int i)).accepted = true)
    (nt : Notification) (hc : notificationCovered M E bad nt = true) (j : Json) (hv : validNotificationC M nt j = true) (hw : Wf j) :
    ∃ e, entryOf E nt.method = some e ∧ ∃ v k, rep E bad k (.cls e.req) v j = true := by
  unfold notificationCovered at hc
  split at hc
  next e he => exact ⟨e, he, valid_object_rep hS hI hU rfl hc hv hw⟩
  next => cases hc

theorem valid_struct_rep (hS : structsCover M E bad = true)
    (hI : ∀ i, inInt32 i = true → (E.vld.int32 (.int i)).accepted = true)
    (hU : ∀ i, inUInt31 i = true → (E.vld.uint31 (.int i)).accepted = true)
    (s : Struct) (hs : s ∈ M.structures) (m : Nat) (j : Json)
    (hv : (match j with | .obj kvs => validPropsC (validTyC M m) (propsOf (flatten M s)) kvs | _ => false) = true) (hw : Wf j) :
    ∃ v k, rep E bad k (.cls s.name) v j = true := by
  obtain ⟨kvs, rfl, hp⟩ := Json.obj_of_match hv
  exact valid_cls_rep hS hI hU (List.all_eq_true.mp hS s hs) hp hw

theorem validPropsC_imp {r r' : Ty → Json → Bool} (h : ∀ t x, r t x = true → r' t x = true)
    {props : List (Name × Bool × Ty)} {kvs : List (Name × Json)} (hv : validPropsC r props kvs = true) : validProps r' props kvs = true := by
  unfold validProps
  split
  · rfl
  · obtain ⟨h1, h2⟩ := Bool.and_eq_true_iff.mp hv
    refine Bool.and_eq_true_iff.mpr ⟨h1, all_imp (fun p => ?_) h2⟩
    cases Json.lookup kvs p.1 with
    | none => exact id
    | some x => exact h _ _

/-- every closed-valid value is valid in the sense of Spec/StrictValid (the labelling spec of C17) -/
theorem validTyC_validTy : ∀ (n : Nat) (T : Ty) (j : Json), validTyC M n T j = true → validTy M n T j = true
  | 0, _, _, h => by cases h
  | n + 1, T, j, h => by
    have ih := validTyC_validTy n
    cases T with
    | base _ | strLit _ | intLit _ | boolLit _ => exact h
    | array e =>
      obtain ⟨xs, rfl, hx⟩ := Json.arr_of_match h
      exact all_imp (ih e) hx
    | map k v =>
      obtain ⟨kvs, rfl, hx⟩ := Json.obj_of_match h
      exact all_imp (fun kv => ih v kv.2) hx
    | tuple ts =>
      obtain ⟨xs, rfl, hx⟩ := Json.arr_of_match h
      obtain ⟨h1, h2⟩ := Bool.and_eq_true_iff.mp hx
      exact Bool.and_eq_true_iff.mpr ⟨h1, all_imp (fun p => ih p.1 p.2) h2⟩
    | or ts =>
      obtain ⟨a, ha, hva⟩ := List.any_eq_true.mp h
      exact List.any_eq_true.mpr ⟨a, ha, ih _ _ hva⟩
    | and ts =>
      obtain ⟨kvs, rfl, hp⟩ := Json.obj_of_match h
      exact validPropsC_imp ih hp
    | lit props =>
      obtain ⟨kvs, rfl, hp⟩ := Json.obj_of_match h
      split at hp
      · next he => exact if_pos he
      · exact validPropsC_imp ih hp
    | ref r =>
      revert h
      refine ite_imp (fun _ => id) fun _ => ite_imp (fun _ => id) fun _ => ite_imp (fun _ => id) fun _ => ?_
      cases M.findEnum r with
      | some e => exact id
      | none =>
        cases M.findStruct r with
        | some s =>
          intro h
          obtain ⟨kvs, rfl, hp⟩ := Json.obj_of_match h
          exact validPropsC_imp ih hp
        | none =>
          cases M.findAlias r with
          | some a => exact ih _ _
          | none => exact id

end LspVerif
