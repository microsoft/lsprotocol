/-
  Lists in lockstep.  `F2 R as bs` / `F3 R as bs cs` say at the level of propositions what the model's
  `all2`, `all3`, `mapE`, `zipE`, `List.mapM` compute, so that a relation which hides a fuel (`∃ n, …`)
  can stand for the recursive call; `F2.fuel`, `F3.fuel`, `forall_mem_fuel` bring the fuels of the
  members of a list to one common fuel.
-/
import LspVerif.Core.Norm
import LspVerif.Props.CattrsLemmas
namespace LspVerif.TestGen

-- `F2` bears the namespace of the test-data generator theorems (Props/C17Gen*.lean), whose statements mention it
inductive F2 {α β} (R : α → β → Prop) : List α → List β → Prop
  | nil : F2 R [] []
  | cons {a b as bs} : R a b → F2 R as bs → F2 R (a :: as) (b :: bs)

variable {α β γ δ : Type _}

theorem F2.cons_iff {R : α → β → Prop} {a b as bs} : F2 R (a :: as) (b :: bs) ↔ R a b ∧ F2 R as bs :=
  ⟨fun | .cons h t => ⟨h, t⟩, fun h => .cons h.1 h.2⟩

theorem F2.imp_mem {R S : α → β → Prop} {as : List α} {bs : List β} (h : F2 R as bs)
    (hRS : ∀ a ∈ as, ∀ b, R a b → S a b) : F2 S as bs := by
  induction h with
  | nil => exact .nil
  | cons h1 _ ih => exact .cons (hRS _ List.mem_cons_self _ h1) (ih fun a ha => hRS a (List.mem_cons_of_mem _ ha))

theorem F2.imp {R S : α → β → Prop} {as : List α} {bs : List β} (h : F2 R as bs) (hRS : ∀ a b, R a b → S a b) : F2 S as bs :=
  h.imp_mem fun a _ => hRS a

theorem F2.flip {R : α → β → Prop} {as : List α} {bs : List β} (h : F2 R as bs) : F2 (fun b a => R a b) bs as := by
  induction h with
  | nil => exact .nil
  | cons h _ ih => exact .cons h ih

theorem F2.and {R S : α → β → Prop} {as : List α} {bs : List β} (h : F2 R as bs) (h' : F2 S as bs) :
    F2 (fun a b => R a b ∧ S a b) as bs := by
  induction h with
  | nil => exact .nil
  | cons h _ ih => cases h' with | cons h' t' => exact .cons ⟨h, h'⟩ (ih t')

theorem F2.of_and {R S : α → β → Prop} {as : List α} {bs : List β} (h : F2 (fun a b => R a b ∧ S a b) as bs) :
    F2 R as bs ∧ F2 S as bs :=
  ⟨h.imp fun _ _ h => h.1, h.imp fun _ _ h => h.2⟩

theorem F2.map_left {R : γ → β → Prop} (fn : α → γ) {as : List α} {bs : List β}
    (h : F2 (fun a b => R (fn a) b) as bs) : F2 R (as.map fn) bs := by
  induction h with
  | nil => exact .nil
  | cons h _ ih => exact .cons h ih

theorem F2.mem_right {R : α → β → Prop} {as : List α} {bs : List β} (h : F2 R as bs) : ∀ b ∈ bs, ∃ a ∈ as, R a b := by
  induction h with
  | nil => exact nofun
  | cons h _ ih =>
    refine List.forall_mem_cons.mpr ⟨⟨_, List.mem_cons_self, h⟩, fun b hb => ?_⟩
    obtain ⟨a, ha, hr⟩ := ih b hb
    exact ⟨a, List.mem_cons_of_mem _ ha, hr⟩

theorem F2.head_right {R : α → β → Prop} {as : List α} {bs : List β} (h : F2 R as bs) {b : β} (hb : bs.head? = some b) :
    ∃ a, as.head? = some a ∧ R a b := by
  cases h with
  | nil => cases hb
  | cons h _ => cases hb; exact ⟨_, rfl, h⟩

theorem F2.find? {R : α → β → Prop} {p : α → Bool} {as : List α} {bs : List β} (h : F2 R as bs)
    {a : α} (hf : as.find? p = some a) : ∃ b, R a b :=
  let ⟨b, _, hr⟩ := h.flip.mem_right a (List.mem_of_find?_eq_some hf)
  ⟨b, hr⟩

theorem F2.comp {R : α → β → Prop} {S : β → γ → Prop} {as : List α} {bs : List β} {cs : List γ}
    (h1 : F2 R as bs) (h2 : F2 S bs cs) : F2 (fun a c => ∃ b, R a b ∧ S b c) as cs := by
  induction h1 generalizing cs with
  | nil => cases h2; exact .nil
  | cons h _ ih => cases h2 with | cons h' t' => exact .cons ⟨_, h, h'⟩ (ih t')

theorem F2.filterMap {f : α → Option β} {l : List α} (h : ∀ a ∈ l, ∃ b, f a = some b) :
    F2 (fun a b => f a = some b) l (l.filterMap f) := by
  induction l with
  | nil => exact .nil
  | cons a l ih =>
    obtain ⟨b, hb⟩ := h a List.mem_cons_self
    rw [List.filterMap_cons_some hb]
    exact .cons hb (ih fun a ha => h a (List.mem_cons_of_mem _ ha))

theorem F2.exists {R : α → β → Prop} {as : List α} (h : ∀ a ∈ as, ∃ b, R a b) : ∃ bs, F2 R as bs := by
  induction as with
  | nil => exact ⟨[], .nil⟩
  | cons a as ih =>
    obtain ⟨b, hb⟩ := h a List.mem_cons_self
    obtain ⟨bs, hbs⟩ := ih fun a ha => h a (List.mem_cons_of_mem _ ha)
    exact ⟨b :: bs, .cons hb hbs⟩

theorem F2.choose {P : α → γ → Prop} {Q : β → γ → Prop} {as : List α} {bs : List β}
    (h : F2 (fun a b => ∃ c, P a c ∧ Q b c) as bs) : ∃ cs, F2 P as cs ∧ F2 Q bs cs := by
  induction h with
  | nil => exact ⟨[], .nil, .nil⟩
  | cons h _ ih =>
    obtain ⟨c, hp, hq⟩ := h
    obtain ⟨cs, hps, hqs⟩ := ih
    exact ⟨c :: cs, .cons hp hps, .cons hq hqs⟩

end LspVerif.TestGen

namespace LspVerif
open TestGen

variable {α β γ δ : Type _}

inductive F3 (R : α → β → γ → Prop) : List α → List β → List γ → Prop
  | nil : F3 R [] [] []
  | cons {a b c as bs cs} : R a b c → F3 R as bs cs → F3 R (a :: as) (b :: bs) (c :: cs)

theorem F3.imp {R S : α → β → γ → Prop} {as bs cs} (h : F3 R as bs cs) (hRS : ∀ a b c, R a b c → S a b c) : F3 S as bs cs := by
  induction h with
  | nil => exact .nil
  | cons h _ ih => exact .cons (hRS _ _ _ h) ih

theorem F3.choose {P : α → β → δ → Prop} {Q : α → γ → δ → Prop} {as bs cs}
    (h : F3 (fun a b c => ∃ d, P a b d ∧ Q a c d) as bs cs) : ∃ ds, F3 P as bs ds ∧ F3 Q as cs ds := by
  induction h with
  | nil => exact ⟨[], .nil, .nil⟩
  | cons h _ ih =>
    obtain ⟨d, hp, hq⟩ := h
    obtain ⟨ds, hps, hqs⟩ := ih
    exact ⟨d :: ds, .cons hp hps, .cons hq hqs⟩

theorem F3.forget {R : β → γ → Prop} {as : List α} {bs cs} (h : F3 (fun _ b c => R b c) as bs cs) : F2 R bs cs := by
  induction h with
  | nil => exact .nil
  | cons h _ ih => exact .cons h ih

theorem F3.zip_left {R : α → β → γ → Prop} {as bs cs} (h : F3 R as bs cs) :
    bs.length = as.length ∧ F2 (fun (p : α × β) c => R p.1 p.2 c) (as.zip bs) cs := by
  induction h with
  | nil => exact ⟨rfl, .nil⟩
  | cons h _ ih => exact ⟨congrArg (· + 1) ih.1, .cons h ih.2⟩

theorem mono_of_succ {P : Nat → Prop} (h : ∀ n, P n → P (n + 1)) {n m : Nat} (hnm : n ≤ m) (hn : P n) : P m := by
  induction hnm with
  | refl => exact hn
  | step _ ih => exact h _ ih

theorem TestGen.F2.fuel {r : Nat → α → β → Prop} (mono : ∀ n m a b, n ≤ m → r n a b → r m a b) {as : List α} {bs : List β}
    (h : F2 (fun a b => ∃ n, r n a b) as bs) : ∃ n, F2 (r n) as bs := by
  induction h with
  | nil => exact ⟨0, .nil⟩
  | cons h _ ih =>
    obtain ⟨n, h⟩ := h
    obtain ⟨m, ht⟩ := ih
    exact ⟨max n m, .cons (mono _ _ _ _ (Nat.le_max_left _ _) h) (ht.imp fun _ _ => mono _ _ _ _ (Nat.le_max_right _ _))⟩

theorem F3.fuel {r : Nat → α → β → γ → Prop} (mono : ∀ n m a b c, n ≤ m → r n a b c → r m a b c) {as bs cs}
    (h : F3 (fun a b c => ∃ n, r n a b c) as bs cs) : ∃ n, F3 (r n) as bs cs := by
  induction h with
  | nil => exact ⟨0, .nil⟩
  | cons h _ ih =>
    obtain ⟨n, h⟩ := h
    obtain ⟨m, ht⟩ := ih
    exact ⟨max n m, .cons (mono _ _ _ _ _ (Nat.le_max_left _ _) h) (ht.imp fun _ _ _ => mono _ _ _ _ _ (Nat.le_max_right _ _))⟩

theorem forall_mem_fuel {r : Nat → α → Prop} (mono : ∀ n m a, n ≤ m → r n a → r m a) {as : List α}
    (h : ∀ a ∈ as, ∃ n, r n a) : ∃ n, ∀ a ∈ as, r n a := by
  induction as with
  | nil => exact ⟨0, nofun⟩
  | cons a as ih =>
    obtain ⟨n, hn⟩ := h a List.mem_cons_self
    obtain ⟨m, hm⟩ := ih fun a ha => h a (List.mem_cons_of_mem _ ha)
    exact ⟨max n m, List.forall_mem_cons.mpr
      ⟨mono _ _ _ (Nat.le_max_left _ _) hn, fun a ha => mono _ _ _ (Nat.le_max_right _ _) (hm a ha)⟩⟩

theorem all2_iff {f : α → β → Bool} {as : List α} {bs : List β} :
    all2 f as bs = true ↔ F2 (fun a b => f a b = true) as bs := by
  refine ⟨fun h => ?_, fun h => ?_⟩
  · induction as generalizing bs with
    | nil => match bs, h with | [], _ => exact .nil
    | cons a as ih =>
      match bs, h with
      | b :: bs, h => rw [all2, Bool.and_eq_true] at h; exact .cons h.1 (ih h.2)
  · induction h with
    | nil => rfl
    | cons h _ ih => rw [all2, h, ih]; rfl

theorem all3_iff {f : α → β → γ → Bool} {as : List α} {bs : List β} {cs : List γ} :
    all3 f as bs cs = true ↔ F3 (fun a b c => f a b c = true) as bs cs := by
  refine ⟨fun h => ?_, fun h => ?_⟩
  · induction as generalizing bs cs with
    | nil => match bs, cs, h with | [], [], _ => exact .nil
    | cons a as ih =>
      match bs, cs, h with
      | b :: bs, c :: cs, h => rw [all3, Bool.and_eq_true] at h; exact .cons h.1 (ih h.2)
  · induction h with
    | nil => rfl
    | cons h _ ih => rw [all3, h, ih]; rfl

theorem mapE_ok_iff {f : α → Except Err β} {xs : List α} {ys : List β} :
    mapE f xs = .ok ys ↔ F2 (fun x y => f x = .ok y) xs ys := by
  induction xs generalizing ys with
  | nil => exact ⟨fun h => by cases h; exact .nil, fun | .nil => rfl⟩
  | cons x xs ih =>
    rw [mapE_cons_ok_iff]
    exact ⟨fun ⟨_, _, hy, hr, h⟩ => h ▸ .cons hy (ih.mp hr), fun | .cons hy ht => ⟨_, _, hy, ih.mpr ht, rfl⟩⟩

theorem mapE_mono {f g : α → Except Err β} {xs : List α} {ys : List β}
    (h : ∀ a ∈ xs, ∀ b, f a = .ok b → g a = .ok b) (h' : mapE f xs = .ok ys) : mapE g xs = .ok ys :=
  mapE_ok_iff.mpr ((mapE_ok_iff.mp h').imp_mem h)

theorem mapE_bind_mono {f g : α → Except Err β} {k : List β → Except Err γ} {xs : List α} {c : γ}
    (h : ∀ a ∈ xs, ∀ b, f a = .ok b → g a = .ok b) (h' : mapE f xs >>= k = .ok c) : mapE g xs >>= k = .ok c :=
  Except.bind_mono (fun _ => mapE_mono h) (fun _ => id) h'

theorem zipE_ok {f : α → β → Except Err γ} {as bs cs} (h : F3 (fun a b c => f a b = .ok c) as bs cs) :
    zipE f as bs = .ok cs := by
  induction h with
  | nil => rfl
  | cons h _ ih => rw [zipE, h, ih]; rfl

theorem TestGen.mapM_spec {F : α → Option β} {l : List α} {r : List β} (h : l.mapM F = some r) : F2 (fun a b => F a = some b) l r := by
  induction l generalizing r with
  | nil => cases h; exact .nil
  | cons a l ih =>
    simp only [List.mapM_cons, Option.bind_eq_bind, Option.bind_eq_some_iff, Option.pure_def, Option.some.injEq] at h
    obtain ⟨b, ha, bs, hl, rfl⟩ := h
    exact .cons ha (ih hl)

/-- `findCls`, `findEnum`, `findStruct`, … are such searches -/
theorem TestGen.find?_name {α} (nm : α → Name) (l : List α) (r : Name) (a : α) (h : l.find? (fun x => nm x == r) = some a) : a ∈ l ∧ nm a = r :=
  ⟨List.mem_of_find?_eq_some h, by simpa using List.find?_some h⟩

theorem Pkg.findCls_name {P : Pkg} {c : Name} {cl : Cls} (h : P.findCls c = some cl) : cl.name = c :=
  (find?_name Cls.name _ c cl h).2

theorem findCls_name' (E : Env) {c : Name} {cl : Cls} (h : E.pkg.findCls c = some cl) : cl.name = c := Pkg.findCls_name h

theorem namesNodup_cons_iff {a : Name} {rest : List Name} : namesNodup (a :: rest) = true ↔ a ∉ rest ∧ namesNodup rest = true := by
  simp only [namesNodup, Bool.and_eq_true, Bool.not_eq_true', List.contains_eq_mem, decide_eq_false_iff_not]

end LspVerif
