/-
  Typed readings without fuel.  `rep E bad n` is a Boolean function recursive on a fuel; the theorems
  speak of `Rep E bad ty v j := ∃ n, rep E bad n ty v j = true`.  `RepShape E R` is one unfolding of
  `rep` with a relation `R` in place of the recursive call, and `Rep` is its least fixed point:
  `Rep_iff` inverts and introduces readings, `Rep.induction` recurses over them, and no proof
  downstream combines the fuels of parts.  Then what the three stacks above it share:
  `vldAccepts` (an attribute's validator as a Boolean) and the soundness of `PyTy.eqb`.
-/
import LspVerif.Props.Lists
namespace LspVerif
open TestGen

def EntryReads (R : PyTy → PyVal → Json → Prop) (k t : PyTy) (p : PyVal × PyVal) (kv : Name × Json) : Prop :=
  (k = .str → p.1 = .str kv.1) ∧ (k ≠ .str → R k p.1 (.str kv.1)) ∧ R t p.2 kv.2

def FieldReads (R : PyTy → PyVal → Json → Prop) (kvs : List (Name × Json)) (f : Field) (av : Name × PyVal) : Prop :=
  av.1 = f.name ∧
  (∀ x, Json.lookup kvs f.wireS = some x → R f.ty av.2 x ∧ f.faithfulJ x = true) ∧
  (Json.lookup kvs f.wireS = Option.none → f.dflt = Dflt.none ∧ av.2 = PyVal.none ∧ R f.ty .none .null)

theorem EntryReads.imp {R S : PyTy → PyVal → Json → Prop} (h : ∀ t v x, R t v x → S t v x) {k t p kv}
    (hr : EntryReads R k t p kv) : EntryReads S k t p kv :=
  ⟨hr.1, fun hk => h _ _ _ (hr.2.1 hk), h _ _ _ hr.2.2⟩

theorem FieldReads.of_some {R : PyTy → PyVal → Json → Prop} {kvs f v x} (hl : Json.lookup kvs f.wireS = some x)
    (h : R f.ty v x) (hf : f.faithfulJ x = true) : FieldReads R kvs f (f.name, v) :=
  ⟨rfl, fun y hy => by cases hl.symm.trans hy; exact ⟨h, hf⟩, fun hn => nomatch hl.symm.trans hn⟩

theorem FieldReads.of_none {R : PyTy → PyVal → Json → Prop} {kvs f} (hl : Json.lookup kvs f.wireS = Option.none)
    (hd : f.dflt = Dflt.none) (h : R f.ty .none .null) : FieldReads R kvs f (f.name, .none) :=
  ⟨rfl, fun _ hy => (nomatch hl.symm.trans hy), fun _ => ⟨hd, rfl, h⟩⟩

theorem FieldReads.imp {R S : PyTy → PyVal → Json → Prop} (h : ∀ t v x, R t v x → S t v x) {kvs f av}
    (hr : FieldReads R kvs f av) : FieldReads S kvs f av :=
  ⟨hr.1, fun x hx => ⟨h _ _ _ (hr.2.1 x hx).1, (hr.2.1 x hx).2⟩,
    fun hx => ⟨(hr.2.2 hx).1, (hr.2.2 hx).2.1, h _ _ _ (hr.2.2 hx).2.2⟩⟩

inductive RepShape (E : Env) (R : PyTy → PyVal → Json → Prop) : PyTy → PyVal → Json → Prop
  | int (i : Int) : RepShape E R .int (.int i) (.int i)
  | floatI (i : Int) : RepShape E R .float (.float (.int i)) (.int i)
  | floatD (d : Nat) : RepShape E R .float (.float (.dec d)) (.dec d)
  | str (s : Name) : RepShape E R .str (.str s) (.str s)
  | bool (b : Bool) : RepShape E R .bool (.bool b) (.bool b)
  | none : RepShape E R .none .none .null
  | any {v j} : isOfJson v j = true → RepShape E R .any v j
  | obj {v kvs} : isOfJson v (.obj kvs) = true → RepShape E R .obj v (.obj kvs)
  | enum {e pe val} : E.pkg.findEnum e = some pe → pe.members.any (·.2 == val) = true →
      RepShape E R (.enum e) (.enum e val) val.toJson
  | literal {vs s} : s ∈ vs → RepShape E R (.literal vs) (.str s) (.str s)
  | cls {c cl vals kvs} : E.pkg.findCls c = some cl → keysNodup kvs = true →
      kvs.all (fun kv => cl.fields.any (·.wireS == kv.1)) = true → F2 (FieldReads R kvs) cl.fields vals →
      runVlds E cl.name cl.fields vals = .ok () → RepShape E R (.cls c) (.inst cl.name vals) (.obj kvs)
  | seq {t vs xs} : F2 (R t) vs xs → RepShape E R (.seq t) (.list vs) (.arr xs)
  | dict {k t ps kvs} : keysNodup kvs = true → F2 (EntryReads R k t) ps kvs → RepShape E R (.dict k t) (.dict ps) (.obj kvs)
  | tuple {ts vs xs} : F3 R ts vs xs → RepShape E R (.tuple ts) (.tuple vs) (.arr xs)
  | alt {ts t v j} : t ∈ ts → R t v j → RepShape E R (.union ts) v j
  | rawI {ts e i} : PyTy.optionalOf ts = Option.none → .enum e ∈ ts → R (.enum e) (.enum e (.i i)) (.int i) →
      RepShape E R (.union ts) (.int i) (.int i)
  | rawS {ts e s} : PyTy.optionalOf ts = Option.none → .enum e ∈ ts → R (.enum e) (.enum e (.s s)) (.str s) →
      RepShape E R (.union ts) (.str s) (.str s)

variable {E : Env} {bad : List PyTy}

theorem RepShape.imp {R S : PyTy → PyVal → Json → Prop} (h : ∀ t v x, R t v x → S t v x) {ty v j}
    (hr : RepShape E R ty v j) : RepShape E S ty v j := by
  cases hr with
  | cls hf hk hd hr hv => exact .cls hf hk hd (hr.imp fun _ _ => FieldReads.imp h) hv
  | seq hr => exact .seq (hr.imp fun _ _ => h _ _ _)
  | dict hk hr => exact .dict hk (hr.imp fun _ _ => EntryReads.imp h)
  | tuple hr => exact .tuple (hr.imp h)
  | alt ht hr => exact .alt ht (h _ _ _ hr)
  | rawI ho ht hr => exact .rawI ho ht (h _ _ _ hr)
  | rawS ho ht hr => exact .rawS ho ht (h _ _ _ hr)
  | _ => constructor <;> assumption

theorem PyVal.isNone_iff {v : PyVal} : v.isNone = true ↔ v = .none := by
  cases v <;> simp [PyVal.isNone]

theorem Json.isNull_iff {j : Json} : j.isNull = true ↔ j = .null := by cases j <;> simp [Json.isNull]

theorem repEntry_iff {r : PyTy → PyVal → Json → Bool} {k t p kv} :
    repEntry r k t p kv = true ↔ EntryReads (fun t v x => r t v x = true) k t p kv := by
  unfold repEntry EntryReads
  rw [Bool.and_eq_true, ← and_assoc]
  refine and_congr_left' ?_
  split
  · split
    next s hp => exact ⟨fun h => ⟨fun _ => eq_of_beq h ▸ hp, fun hk => absurd rfl hk⟩,
        fun h => beq_iff_eq.mpr (PyVal.str.inj (hp.symm.trans (h.1 rfl)))⟩
    next hp => exact ⟨nofun, fun h => (hp _ (h.1 rfl)).elim⟩
  next hk => exact ⟨fun h => ⟨fun e => (hk e).elim, fun _ => h⟩, fun h => h.2 hk⟩

theorem repFields_iff {r : PyTy → PyVal → Json → Bool} {kvs fs vals} :
    repFields r kvs fs vals = true ↔ F2 (FieldReads (fun t v x => r t v x = true) kvs) fs vals := by
  induction fs generalizing vals with
  | nil =>
    match vals with
    | [] => exact ⟨fun _ => .nil, fun _ => rfl⟩
    | _ :: _ => exact ⟨nofun, nofun⟩
  | cons f fs ih =>
    match vals with
    | [] => exact ⟨nofun, nofun⟩
    | (a, v) :: vs =>
      rw [F2.cons_iff, ← ih, repFields, FieldReads]
      cases Json.lookup kvs f.wireS <;> simp [PyVal.isNone_iff, and_assoc]

theorem rep_succ_iff {n ty v j} : rep E bad (n + 1) ty v j = true ↔
    isBad bad ty = false ∧ RepShape E (fun t w x => rep E bad n t w x = true) ty v j := by
  conv => lhs; unfold rep
  rw [Bool.and_eq_true, Bool.not_eq_true']
  refine and_congr_right fun _ => ⟨fun h => ?_, fun h => ?_⟩
  · -- `split` numbers the clauses of `rep` in their order, int float str bool none any obj enum literal
    -- cls seq dict tuple union unknown
    split at h
    case h_1 | h_3 | h_4 => split at h <;> first | (rw [eq_of_beq h]; constructor) | cases h
    case h_2 =>
      split at h
      · split at h <;> first | (rw [eq_of_beq h]; constructor) | cases h
      · split at h <;> first | (rw [eq_of_beq h]; constructor) | cases h
      · cases h
    case h_5 => split at h <;> first | exact .none | cases h
    case h_6 => exact .any h
    case h_7 => split at h <;> first | exact .obj h | cases h
    case h_8 =>
      split at h
      · rename_i hf
        simp only [Bool.and_eq_true, beq_iff_eq] at h
        obtain ⟨⟨rfl, hm⟩, hj⟩ := h
        split at hj <;> first | (cases eq_of_beq hj; exact .enum hf hm) | cases hj
      · cases h
    case h_9 =>
      split at h
      · rw [Bool.and_eq_true, beq_iff_eq, List.contains_iff_mem] at h
        rw [← h.1]; exact .literal h.2
      · cases h
    case h_10 =>
      split at h
      · rename_i hf
        simp only [Bool.and_eq_true, beq_iff_eq] at h
        obtain ⟨⟨⟨⟨rfl, hk⟩, hd⟩, hr⟩, hv⟩ := h
        split at hv
        · rename_i hu; exact .cls hf hk hd (repFields_iff.mp hr) hu
        · cases hv
      · cases h
    case h_11 => split at h <;> first | exact .seq (all2_iff.mp h) | cases h
    case h_12 =>
      split at h
      · rw [Bool.and_eq_true] at h; exact .dict h.1 ((all2_iff.mp h.2).imp fun _ _ => repEntry_iff.mp)
      · cases h
    case h_13 => split at h <;> first | exact .tuple (all3_iff.mp h) | cases h
    case h_14 =>
      rw [Bool.or_eq_true, List.any_eq_true, Bool.and_eq_true, Option.isNone_iff_eq_none] at h
      rcases h with ⟨t, ht, h⟩ | ⟨ho, h⟩
      · exact .alt ht h
      · obtain ⟨t, ht, h⟩ := List.any_eq_true.mp h
        split at h
        · split at h
          · rw [Bool.and_eq_true, beq_iff_eq] at h; cases h.1; exact .rawI ho ht h.2
          · rw [Bool.and_eq_true, beq_iff_eq] at h; cases h.1; exact .rawS ho ht h.2
          · cases h
        · cases h
    case h_15 => cases h
  · cases h with
    | alt ht h => simp only [Bool.or_eq_true, List.any_eq_true]; exact .inl ⟨_, ht, h⟩
    | rawI ho ht h => simp only [ho, rawEnum, Bool.or_eq_true, Bool.and_eq_true, List.any_eq_true]; exact .inr ⟨rfl, _, ht, by simpa using h⟩
    | rawS ho ht h => simp only [ho, rawEnum, Bool.or_eq_true, Bool.and_eq_true, List.any_eq_true]; exact .inr ⟨rfl, _, ht, by simpa using h⟩
    | @enum e pe val hf hm => cases val <;> simp [hf, hm, EnumVal.toJson]
    | cls hf hk hd hr hv => simp [hf, hk, hd, repFields_iff.mpr hr, hv]
    | seq h => exact all2_iff.mpr h
    | dict hk h => simp [hk, all2_iff.mpr (h.imp fun _ _ => repEntry_iff.mpr)]
    | tuple h => exact all3_iff.mpr h
    | _ => simp [*]

theorem rep_succ : ∀ {n ty v j}, rep E bad n ty v j = true → rep E bad (n + 1) ty v j = true
  | n + 1, _, _, _, h => by
    rw [rep_succ_iff] at h ⊢
    exact ⟨h.1, h.2.imp fun _ _ _ => rep_succ⟩

theorem rep_mono {n m : Nat} (hnm : n ≤ m) {ty v j} (h : rep E bad n ty v j = true) : rep E bad m ty v j = true :=
  mono_of_succ (P := fun n => rep E bad n ty v j = true) (fun _ => rep_succ) hnm h

theorem FieldReads.fuel {r : Nat → PyTy → PyVal → Json → Prop} {kvs f av} (h : FieldReads (fun t v x => ∃ n, r n t v x) kvs f av) :
    ∃ n, FieldReads (r n) kvs f av := by
  obtain ⟨ha, hs, hn⟩ := h
  cases hl : Json.lookup kvs f.wireS with
  | some x =>
    obtain ⟨⟨n, h1⟩, h2⟩ := hs x hl
    exact ⟨n, ha, fun y hy => by cases hl.symm.trans hy; exact ⟨h1, h2⟩, fun hy => (by cases hl.symm.trans hy)⟩
  | none =>
    obtain ⟨h1, h2, n, h3⟩ := hn hl
    exact ⟨n, ha, fun y hy => (by cases hl.symm.trans hy), fun _ => ⟨h1, h2, h3⟩⟩

theorem EntryReads.fuel {r : Nat → PyTy → PyVal → Json → Prop} (mono : ∀ n m t v x, n ≤ m → r n t v x → r m t v x)
    {k t p kv} (h : EntryReads (fun t v x => ∃ n, r n t v x) k t p kv) : ∃ n, EntryReads (r n) k t p kv := by
  obtain ⟨h1, h2, m, h3⟩ := h
  by_cases hk : k = .str
  · exact ⟨m, h1, fun hne => absurd hk hne, h3⟩
  · obtain ⟨n, h2⟩ := h2 hk
    exact ⟨max n m, h1, fun _ => mono _ _ _ _ _ (Nat.le_max_left _ _) h2, mono _ _ _ _ _ (Nat.le_max_right _ _) h3⟩

/-- a shape has finitely many premises: if each holds at some fuel, all hold at one -/
theorem RepShape.fuel {ty v j} (h : RepShape E (Rep E bad) ty v j) :
    ∃ n, RepShape E (fun t w x => rep E bad n t w x = true) ty v j := by
  cases h with
  | cls hf hk hd hr hv =>
    obtain ⟨n, hr⟩ := F2.fuel (r := fun n => FieldReads (fun t v x => rep E bad n t v x = true) _)
      (fun _ _ _ _ hnm h => h.imp fun _ _ _ => rep_mono hnm) (hr.imp fun _ _ => FieldReads.fuel)
    exact ⟨n, .cls hf hk hd hr hv⟩
  | @seq t _ _ hr =>
    obtain ⟨n, hr⟩ := F2.fuel (r := fun n w x => rep E bad n t w x = true) (fun _ _ _ _ hnm => rep_mono hnm) hr
    exact ⟨n, .seq hr⟩
  | @dict k t _ _ hk hr =>
    obtain ⟨n, hr⟩ := F2.fuel (r := fun n => EntryReads (fun t v x => rep E bad n t v x = true) k t)
      (fun _ _ _ _ hnm h => h.imp fun _ _ _ => rep_mono hnm) (hr.imp fun _ _ => EntryReads.fuel (r := fun n t v x => rep E bad n t v x = true) fun _ _ _ _ _ hnm => rep_mono hnm)
    exact ⟨n, .dict hk hr⟩
  | tuple hr =>
    obtain ⟨n, hr⟩ := F3.fuel (r := fun n t w x => rep E bad n t w x = true) (fun _ _ _ _ _ hnm => rep_mono hnm) hr
    exact ⟨n, .tuple hr⟩
  | alt ht hr => exact hr.elim fun n hr => ⟨n, .alt ht hr⟩
  | rawI ho ht hr => exact hr.elim fun n hr => ⟨n, .rawI ho ht hr⟩
  | rawS ho ht hr => exact hr.elim fun n hr => ⟨n, .rawS ho ht hr⟩
  | _ => exact ⟨0, by constructor <;> assumption⟩

theorem Rep_iff {ty v j} : Rep E bad ty v j ↔ isBad bad ty = false ∧ RepShape E (Rep E bad) ty v j := by
  constructor
  · rintro ⟨n, h⟩
    cases n with
    | zero => cases h
    | succ n =>
      rw [rep_succ_iff] at h
      exact ⟨h.1, h.2.imp fun _ _ _ h => ⟨n, h⟩⟩
  · rintro ⟨hb, h⟩
    obtain ⟨n, h⟩ := h.fuel
    exact ⟨n + 1, rep_succ_iff.mpr ⟨hb, h⟩⟩

/-- the parts come with their readings and the induction hypothesis -/
theorem Rep.induction {motive : ∀ ty v j, Rep E bad ty v j → Prop}
    (step : ∀ ty v j h, isBad bad ty = false → RepShape E (fun t w x => ∃ h : Rep E bad t w x, motive t w x h) ty v j →
      motive ty v j h)
    {ty v j} (h : Rep E bad ty v j) : motive ty v j h := by
  obtain ⟨n, h⟩ := h
  induction n generalizing ty v j with
  | zero => cases h
  | succ n ih =>
    have h' := rep_succ_iff.mp h
    exact step _ _ _ _ h'.1 (h'.2.imp fun _ _ _ h => ⟨⟨n, h⟩, ih h⟩)

theorem Rep.not_bad {ty v j} (h : Rep E bad ty v j) : isBad bad ty = false := (Rep_iff.mp h).1

theorem Rep.shape {ty v j} (h : Rep E bad ty v j) : RepShape E (Rep E bad) ty v j := (Rep_iff.mp h).2

theorem isOfJson_none_iff {v : PyVal} {j : Json} (h : isOfJson v j = true) : v = .none ↔ j = .null := by
  unfold isOfJson at h
  split at h
  case h_1 => exact ⟨fun _ => rfl, fun _ => rfl⟩
  case h_8 => cases h
  all_goals exact ⟨nofun, nofun⟩

theorem Rep.none_iff {ty v j} (h : Rep E bad ty v j) : v = .none ↔ j = .null := by
  induction h using Rep.induction with
  | step ty v j _ _ h =>
    cases h with
    | none => exact ⟨fun _ => rfl, fun _ => rfl⟩
    | any hj | obj hj => exact isOfJson_none_iff hj
    | alt _ h => exact h.2
    | @enum _ _ val => cases val <;> exact ⟨nofun, nofun⟩
    | _ => exact ⟨nofun, nofun⟩

theorem Rep.none_ty {v j} (h : Rep E bad .none v j) : v = .none ∧ j = .null := by
  cases h.shape; exact ⟨rfl, rfl⟩

/-- a raw primitive at an enum alternative is traded for the member -/
theorem Rep.union_alt {ts v j} (h : Rep E bad (.union ts) v j) : ∃ t ∈ ts, ∃ w, Rep E bad t w j := by
  cases h.shape with
  | alt ht hr | rawI _ ht hr | rawS _ ht hr => exact ⟨_, ht, _, hr⟩

theorem Rep.of_alt {ts t v j} (hb : isBad bad (.union ts) = false) (ht : t ∈ ts) (h : Rep E bad t v j) :
    Rep E bad (.union ts) v j := Rep_iff.mpr ⟨hb, .alt ht h⟩

theorem optionalOf_inv {ts : List PyTy} {x : PyTy} (h : PyTy.optionalOf ts = some x) :
    ts = [.none, x] ∨ ts = [x, .none] := by
  unfold PyTy.optionalOf at h
  split at h
  · cases h; exact .inl rfl
  · cases h; exact .inr rfl
  · cases h

theorem optionalOf_mem {ts : List PyTy} {x : PyTy} (h : PyTy.optionalOf ts = some x) :
    x ∈ ts ∧ ∀ u ∈ ts, u = x ∨ u = .none := by
  rcases optionalOf_inv h with rfl | rfl <;> simp

theorem Rep.optional {ts x v j} (ho : PyTy.optionalOf ts = some x) (h : Rep E bad (.union ts) v j) :
    (v = .none ∧ j = .null) ∨ Rep E bad x v j := by
  cases h.shape with
  | alt ht hr =>
    rcases (optionalOf_mem ho).2 _ ht with rfl | rfl
    · exact .inr hr
    · exact .inl hr.none_ty
  | rawI hn | rawS hn => rw [ho] at hn; cases hn

mutual
theorem isOfJson_ofJson : ∀ j : Json, isOfJson (PyVal.ofJson j) j = true
  | .null => rfl
  | .bool _ | .int _ | .dec _ | .str _ => beq_self_eq_true _
  | .arr xs => isOfJsonL_ofJson xs
  | .obj kvs => isOfJsonK_ofJson kvs
theorem isOfJsonL_ofJson : ∀ xs : List Json, isOfJsonL (PyVal.ofJsonList xs) xs = true
  | [] => rfl
  | x :: xs => Bool.and_eq_true_iff.mpr ⟨isOfJson_ofJson x, isOfJsonL_ofJson xs⟩
theorem isOfJsonK_ofJson : ∀ kvs : List (Name × Json), isOfJsonK (PyVal.ofJsonKvs kvs) kvs = true
  | [] => rfl
  | (k, x) :: rest =>
    Bool.and_eq_true_iff.mpr ⟨Bool.and_eq_true_iff.mpr ⟨beq_self_eq_true k, isOfJson_ofJson x⟩, isOfJsonK_ofJson rest⟩
end

theorem F2_ofJsonList {R : PyVal → Json → Prop} : ∀ {xs : List Json}, (∀ x ∈ xs, R (PyVal.ofJson x) x) →
    F2 R (PyVal.ofJsonList xs) xs
  | [], _ => .nil
  | x :: _, h => .cons (h x List.mem_cons_self) (F2_ofJsonList fun y hy => h y (List.mem_cons_of_mem _ hy))

theorem Field.faithfulJ_of {f : Field} {x : Json}
    (hn : f.dflt = Dflt.none → x = .null → f.omitU = false ∨ f.ty.anyNull = true)
    (hs : ∀ s, f.dflt = Dflt.str s → f.omitU = false) : f.faithfulJ x = true := by
  unfold Field.faithfulJ
  split
  next hd =>
    cases hx : x.isNull with
    | false => rw [Bool.and_false]; rfl
    | true => rcases hn hd (Json.isNull_iff.mp hx) with h | h <;> simp [h]
  next s hd => rw [hs s hd]; rfl
  next => rfl

section
variable (E : Env)

/-- `runFieldVld` as a Boolean (`runFieldVld_iff`) -/
def vldAccepts (vl : Vld) (v : PyVal) : Bool :=
  match vl with
  | .none => true
  | _ =>
    match v.toPV with
    | Option.none => (match vl with | .instStr | .opt .instStr => true | _ => false)
    | some pv => (runVld E.vld vl pv).accepted

variable {E}

theorem runFieldVld_iff {cls : Name} {f : Field} {v : PyVal} :
    runFieldVld E cls f v = .ok () ↔ vldAccepts E f.vld v = true := by
  unfold runFieldVld vldAccepts
  generalize f.vld = vl
  split
  · exact ⟨fun _ => rfl, fun _ => rfl⟩
  · cases v.toPV with
    | none => dsimp only; split <;> simp
    | some pv => dsimp only; split <;> simp [*]

theorem runVld_opt {w : Vld} {pv : PV} (h : pv ≠ .none) : runVld E.vld (.opt w) pv = runVld E.vld w pv := by
  cases pv <;> first | rfl | exact absurd rfl h

end

/-- `h` is there only to align the two lists: where one runs out before the other `runVlds` answers `ok`. -/
theorem runVlds_iff {E : Env} {cls : Name} {R : Field → Name × PyVal → Prop} {fs vals} (h : F2 R fs vals) :
    runVlds E cls fs vals = .ok () ↔ F2 (fun f av => runFieldVld E cls f av.2 = .ok ()) fs vals := by
  induction h with
  | nil => exact ⟨fun _ => .nil, fun _ => rfl⟩
  | @cons f av _ _ _ _ ih =>
    obtain ⟨a, v⟩ := av
    rw [runVlds, F2.cons_iff, ← ih]
    cases runFieldVld E cls f v <;> simp

theorem eqL_sound {α} {f : α → α → Bool} {xs ys : List α} (hf : ∀ a b, f a b = true → a = b)
    (h : eqL f xs ys = true) : xs = ys := by
  induction xs generalizing ys with
  | nil => match ys, h with | [], _ => rfl
  | cons a as ih =>
    match ys, h with
    | b :: bs, h =>
      rw [eqL, Bool.and_eq_true] at h
      rw [hf a b h.1, ih h.2]

theorem PyTy.eqF_sound (n : Nat) : ∀ a b : PyTy, PyTy.eqF n a b = true → a = b := by
  induction n with
  | zero => exact nofun
  | succ n ih =>
    intro a b h
    unfold PyTy.eqF at h
    -- `split` numbers the clauses of `eqF`: the seven constants of its first line are 1 to 7, then cls enum
    -- seq dict tuple union literal unknown, and the catch-all is 16
    split at h
    case h_8 | h_9 | h_14 | h_15 => rw [eq_of_beq h]
    case h_10 => rw [ih _ _ h]
    case h_11 => rw [Bool.and_eq_true] at h; rw [ih _ _ h.1, ih _ _ h.2]
    case h_12 | h_13 => rw [eqL_sound ih h]
    case h_16 => cases h
    all_goals rfl

/-- `eqb` is `eqF` with the first layer unrolled -/
theorem PyTy.eqb_sound {a b : PyTy} (h : PyTy.eqb a b = true) : a = b := PyTy.eqF_sound 17 a b h

theorem any_eqb_sound {ts : List PyTy} {t : PyTy} (h : ts.any (PyTy.eqb t) = true) : t ∈ ts := by
  obtain ⟨u, hu, he⟩ := List.any_eq_true.mp h
  rw [PyTy.eqb_sound he]
  exact hu

end LspVerif
