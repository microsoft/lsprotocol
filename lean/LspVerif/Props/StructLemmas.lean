/-
  `structTy` without fuel.  A success stays the same success with more fuel (`structTy_mono`), so the
  successes `Str E ty j v := ∃ n, structTy E n ty j = .ok v` of the parts of a value combine into a
  success for the whole: the introduction rules `Str.seq` … `Run.mapEach`, whose proofs are the only
  place where the fuels of the parts meet.  `EntryStr` and `FieldStr` say what `dictEntry` and
  `fieldVal` do with a relation in place of the recursive call.
-/
import LspVerif.Props.RepLemmas
namespace LspVerif
open TestGen

abbrev EntryStr (S : PyTy → Json → PyVal → Prop) (k t : PyTy) (kv : Name × Json) (p : PyVal × PyVal) : Prop :=
  EntryReads (fun t v x => S t x v) k t p kv

theorem dictEntry_ok {f : PyTy → Json → Except Err PyVal} {k t kv p}
    (h : EntryStr (fun t x v => f t x = .ok v) k t kv p) : dictEntry f k t kv = .ok p := by
  obtain ⟨h1, h2, h3⟩ := h
  unfold dictEntry
  split
  · simp only [bind, Except.bind, h3, ← h1 rfl]
  · next hk => simp only [bind, Except.bind, h2 fun e => hk (e ▸ rfl), h3]

def FieldStr (S : PyTy → Json → PyVal → Prop) (kvs : List (Name × Json)) (f : Field) (av : Name × PyVal) : Prop :=
  av.1 = f.name ∧ (∀ x, Json.lookup kvs f.wireS = some x → S f.ty x av.2) ∧
    (Json.lookup kvs f.wireS = Option.none → f.dflt.toVal = some av.2)

theorem FieldStr.of_some {S : PyTy → Json → PyVal → Prop} {kvs f v x} (hl : Json.lookup kvs f.wireS = some x)
    (h : S f.ty x v) : FieldStr S kvs f (f.name, v) :=
  ⟨rfl, fun y hy => by cases hl.symm.trans hy; exact h, fun hn => nomatch hl.symm.trans hn⟩

theorem FieldStr.of_none {S : PyTy → Json → PyVal → Prop} {kvs f v} (hl : Json.lookup kvs f.wireS = Option.none)
    (hd : f.dflt.toVal = some v) : FieldStr S kvs f (f.name, v) :=
  ⟨rfl, fun _ hy => (nomatch hl.symm.trans hy), fun _ => hd⟩

theorem FieldStr.imp {S T : PyTy → Json → PyVal → Prop} (h : ∀ t x v, S t x v → T t x v) {kvs f av}
    (hf : FieldStr S kvs f av) : FieldStr T kvs f av :=
  ⟨hf.1, fun x hx => h _ _ _ (hf.2.1 x hx), hf.2.2⟩

theorem FieldStr.fuel {s : Nat → PyTy → Json → PyVal → Prop} {kvs f av} (h : FieldStr (fun t x v => ∃ n, s n t x v) kvs f av) :
    ∃ n, FieldStr (s n) kvs f av := by
  obtain ⟨ha, hs, hn⟩ := h
  cases hl : Json.lookup kvs f.wireS with
  | some x =>
    obtain ⟨n, h1⟩ := hs x hl
    exact ⟨n, ha, fun y hy => Option.some.inj (hl.symm.trans hy) ▸ h1, fun hy => nomatch hl.symm.trans hy⟩
  | none => exact ⟨0, ha, fun _ hy => (nomatch hl.symm.trans hy), hn⟩

theorem fieldVal_ok_iff {f : PyTy → Json → Except Err PyVal} {cls kvs fl v} :
    fieldVal f cls kvs fl = .ok v ↔ FieldStr (fun t x v => f t x = .ok v) kvs fl (fl.name, v) := by
  unfold fieldVal FieldStr
  cases Json.lookup kvs fl.wireS with
  | some x => exact ⟨fun h => ⟨rfl, fun y hy => Option.some.inj hy ▸ h, nofun⟩, fun h => h.2.1 x rfl⟩
  | none =>
    dsimp only
    split
    next d hd => exact ⟨fun h => ⟨rfl, nofun, fun _ => hd.trans (congrArg some (Except.ok.inj h))⟩,
        fun h => congrArg Except.ok (Option.some.inj (hd.symm.trans (h.2.2 rfl)))⟩
    next hd => exact ⟨nofun, fun h => nomatch hd.symm.trans (h.2.2 rfl)⟩

theorem structFields_ok_iff {f : PyTy → Json → Except Err PyVal} {cls kvs fs vals} :
    structFields f cls kvs fs = .ok vals ↔ F2 (FieldStr (fun t x v => f t x = .ok v) kvs) fs vals := by
  induction fs generalizing vals with
  | nil => exact ⟨fun h => by cases h; exact .nil, fun | .nil => rfl⟩
  | cons fl fs ih =>
    rw [structFields_cons_ok_iff]
    constructor
    · rintro ⟨v, rest, hv, hr, rfl⟩
      exact .cons (fieldVal_ok_iff.mp hv) (ih.mp hr)
    · rintro (_ | ⟨h, t⟩)
      rename_i av rest
      obtain ⟨a, v⟩ := av
      cases (h.1 : a = fl.name)
      exact ⟨v, rest, fieldVal_ok_iff.mpr h, ih.mpr t, rfl⟩

def SLe (f g : PyTy → Json → Except Err PyVal) : Prop := ∀ t x v, f t x = .ok v → g t x = .ok v

theorem HExpr.run_mono {f g : PyTy → Json → Except Err PyVal} (h : SLe f g) :
    ∀ (e : HExpr) (j : Json) (v : PyVal), e.run f j = .ok v → e.run g j = .ok v
  | .retNone, _, _, h' | .retSelf, _, _, h' | .retEmptyList, _, _, h' | .strOf, _, _, h' | .tupleInts _, _, _, h'
  | .raise _, _, _, h' => h'
  | .structAs t, j, v, h' => h t j v h'
  | .mapEach e, j, v, h' => by
    cases j <;> try exact h'
    case arr xs => exact mapE_bind_mono (fun a _ => HExpr.run_mono h e a) h'
  | .ite c a b, j, v, h' => by
    refine Except.bind_mono (fun _ => id) (fun bv hb => ?_) h'
    cases bv
    · exact HExpr.run_mono h b j v hb
    · exact HExpr.run_mono h a j v hb

theorem structCls_mono (E : Env) {f g : PyTy → Json → Except Err PyVal} (h : SLe f g) (c : Cls) (j : Json) (v : PyVal)
    (h' : structCls E f c j = .ok v) : structCls E g c j = .ok v := by
  cases j <;> try exact h'
  case obj kvs =>
    simp only [structCls, structObj] at h' ⊢
    split at h'
    · cases h'
    · next hfe =>
      rw [if_neg hfe]
      split at h'
      · cases h'
      · next hs =>
        rw [structFields_ok_iff.mpr ((structFields_ok_iff.mp hs).imp fun _ _ => FieldStr.imp h)]
        exact h'

theorem dictEntry_mono {f g : PyTy → Json → Except Err PyVal} (h : SLe f g) (k v : PyTy) (kv : Name × Json) (r : PyVal × PyVal)
    (h' : dictEntry f k v kv = .ok r) : dictEntry g k v kv = .ok r := by
  refine Except.bind_mono (fun kk hk => ?_) (fun _ => Except.bind_mono (h _ _) fun _ => id) h'
  split at hk
  · exact hk
  · exact h _ _ _ hk

theorem structTy_succ (E : Env) : ∀ (n : Nat) (ty : PyTy) (j : Json) (v : PyVal),
    structTy E n ty j = .ok v → structTy E (n + 1) ty j = .ok v
  | 0, _, _, _, h => nomatch h
  | n + 1, ty, j, v, h => by
    have ih : SLe (structTy E n) (structTy E (n + 1)) := structTy_succ E n
    unfold structTy at h ⊢
    split at h
    · exact HExpr.run_mono ih _ j v h
    -- `split` numbers the clauses of `structTy` in their order; cls seq dict tuple union are 10 to 14,
    -- the others do not recur
    split at h
    case h_10 =>
      split at h
      · cases h
      · exact structCls_mono E ih _ j v h
    case h_11 =>
      split at h
      · exact mapE_bind_mono (fun a _ => ih _ a) h
      all_goals exact h
    case h_12 =>
      split at h
      · exact mapE_bind_mono (fun a _ => dictEntry_mono ih _ _ a) h
      · exact h
    case h_13 =>
      split at h
      · split at h
        · cases h
        · next hl => exact (if_neg hl).trans (mapE_bind_mono (fun a _ => ih _ _) h)
      · exact h
    case h_14 =>
      split at h
      · split at h
        · exact h
        · exact ih _ _ _ h
      · split at h
        · next hall =>
          refine (if_pos hall).trans ?_
          split at h
          · exact HExpr.run_mono ih _ j v h
          · cases h
        · cases h
    all_goals exact h

theorem structTy_mono {E : Env} {n m : Nat} (hnm : n ≤ m) {ty : PyTy} {j : Json} {v : PyVal}
    (h : structTy E n ty j = .ok v) : structTy E m ty j = .ok v :=
  mono_of_succ (fun n => structTy_succ E n ty j v) hnm h

variable {E : Env}

def Run (E : Env) (h : HExpr) (j : Json) (v : PyVal) : Prop := ∃ m, h.run (structTy E m) j = .ok v

theorem Str.seq {t xs ys} (hh : E.hookFor (.seq t) = Option.none) (h : F2 (Str E t) xs ys) :
    Str E (.seq t) (.arr xs) (.list ys) := by
  obtain ⟨n, h⟩ := F2.fuel (r := fun n x y => structTy E n t x = .ok y) (fun _ _ _ _ hnm => structTy_mono hnm) h
  exact ⟨n + 1, by simp [structTy, hh, mapE_ok_iff.mpr h, bind, Except.bind]⟩

theorem Str.tuple {ts xs ys} (hh : E.hookFor (.tuple ts) = Option.none) (h : F3 (fun t x y => Str E t x y) ts xs ys) :
    Str E (.tuple ts) (.arr xs) (.tuple ys) := by
  obtain ⟨n, h⟩ := F3.fuel (r := fun n t x y => structTy E n t x = .ok y) (fun _ _ _ _ _ hnm => structTy_mono hnm) h
  obtain ⟨hl, h⟩ := h.zip_left
  exact ⟨n + 1, by simp [structTy, hh, hl, mapE_ok_iff.mpr h, bind, Except.bind]⟩

theorem Str.dict {k t kvs ps} (hh : E.hookFor (.dict k t) = Option.none) (h : F2 (EntryStr (Str E) k t) kvs ps) :
    Str E (.dict k t) (.obj kvs) (.dict ps) := by
  obtain ⟨n, h⟩ := F2.fuel (r := fun n => EntryStr (fun t x v => structTy E n t x = .ok v) k t)
    (fun _ _ _ _ hnm h => h.imp fun _ _ _ => structTy_mono hnm)
    (h.imp fun _ _ => EntryReads.fuel (r := fun n t v x => structTy E n t x = .ok v) fun _ _ _ _ _ hnm => structTy_mono hnm)
  exact ⟨n + 1, by simp [structTy, hh, mapE_ok_iff.mpr (h.imp fun _ _ => dictEntry_ok), bind, Except.bind]⟩

theorem Str.cls {c cl kvs vals} (hh : E.hookFor (.cls c) = Option.none) (hc : E.pkg.findCls c = some cl)
    (hd : kvs.all (fun kv => cl.fields.any (·.wireS == kv.1)) = true)
    (hf : F2 (FieldStr (Str E) kvs) cl.fields vals) (hv : runVlds E cl.name cl.fields vals = .ok ()) :
    Str E (.cls c) (.obj kvs) (.inst cl.name vals) := by
  have hx : (cl.forbidExtra && kvs.any fun kv => !(cl.fields.any (·.wireS == kv.1))) = false := by
    rw [← List.not_all_eq_any_not, hd]; exact Bool.and_false _
  obtain ⟨n, hf⟩ := F2.fuel (r := fun n => FieldStr (fun t x v => structTy E n t x = .ok v) kvs)
    (fun _ _ _ _ hnm h => h.imp fun _ _ _ => structTy_mono hnm) (hf.imp fun _ _ => FieldStr.fuel)
  exact ⟨n + 1, by simp [structTy, hh, hc, structCls, structObj, hx, structFields_ok_iff.mpr hf, hv]⟩

theorem Str.hook {ty h j v} (hh : E.hookFor ty = some h) (hr : Run E h j v) : Str E ty j v :=
  hr.elim fun m hm => ⟨m + 1, by simp [structTy, hh, hm]⟩

theorem Str.disamb {ts h j v} (hh : E.hookFor (.union ts) = Option.none) (ho : PyTy.optionalOf ts = Option.none)
    (hall : ts.all PyTy.isAttrsOrNone = true) (hd : E.disambFor (.union ts) = some h) (hr : Run E h j v) :
    Str E (.union ts) j v :=
  hr.elim fun m hm => ⟨m + 1, by simp [structTy, hh, ho, hall, hd, hm]⟩

theorem Str.opt_null {ts x} (hh : E.hookFor (.union ts) = Option.none) (ho : PyTy.optionalOf ts = some x) :
    Str E (.union ts) .null .none := ⟨1, by simp [structTy, hh, ho]⟩

theorem Str.opt {ts x j v} (hh : E.hookFor (.union ts) = Option.none) (ho : PyTy.optionalOf ts = some x)
    (hj : j ≠ .null) (h : Str E x j v) : Str E (.union ts) j v :=
  h.elim fun m hm => ⟨m + 1, by simpa only [structTy, hh, ho, hj] using hm⟩

theorem Run.structAs {t j v} (h : Str E t j v) : Run E (.structAs t) j v := h

theorem Run.ite {c a b j v} {bv : Bool} (hc : c.eval j = .ok bv) (h : Run E (if bv then a else b) j v) :
    Run E (.ite c a b) j v :=
  h.elim fun m hm => ⟨m, by cases bv <;> simpa [HExpr.run, hc, bind, Except.bind] using hm⟩

theorem Run.mapEach {e xs ys} (h : F2 (Run E e) xs ys) : Run E (.mapEach e) (.arr xs) (.list ys) := by
  obtain ⟨n, h⟩ := F2.fuel (r := fun n x y => e.run (structTy E n) x = .ok y)
    (fun _ _ _ _ hnm => HExpr.run_mono (fun _ _ _ => structTy_mono hnm) e _ _) h
  exact ⟨n, by simp [HExpr.run, mapE_ok_iff.mpr h, bind, Except.bind]⟩

end LspVerif
