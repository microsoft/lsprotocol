/-
  T1 — totality and well-typedness of structuring on valid input (C03, C14, and the first half of C01):

      progsOK E bad H  →  clsesOK E bad H  →  InU E bad H ty  →  Valid ty j  →
          ∃ v', structure(j, ty) = ok v' ∧ v' is a typed reading of j at ty

  for every JSON value `j` (any size, any nesting), by induction on the size of `j`.  `progsOK` and
  `clsesOK` are the kernel-evaluated table facts (per run, on the regenerated environment): every
  program that dispatches a union — a registered hook or the disambiguator cattrs built — passes the
  dispatch checker, and the annotations of every class pass the closure check `lightOK` (nothing
  `structTy` recurs into is left without support).
-/
import LspVerif.Props.ChkSound
namespace LspVerif
open TestGen

variable (E : Env) (bad : List PyTy)

def InU (H : List PyTy) (ty : PyTy) : Prop := ∃ n, lightOK E bad H n ty = true

section
variable {E} {bad}

theorem simple_unique : ∀ {k : Nat} {t : PyTy} {v v' : PyVal} {x : Json}, simpleTyF k t = true →
    Rep E bad t v x → Rep E bad t v' x → v = v'
  | k + 1, t, v, v', x, hs, h, h' => by
    cases t with
    | union ts =>
      simp only [simpleTyF] at hs
      split at hs
      · rename_i ho
        rcases h.optional ho with ⟨rfl, rfl⟩ | hr
        · exact (h'.none_iff.mpr rfl).symm
        · rcases h'.optional ho with ⟨rfl, rfl⟩ | hr'
          · exact hr.none_iff.mpr rfl
          · exact simple_unique hs hr hr'
      · cases hs
    | int | str | bool | none | float | literal =>
      cases h.shape <;> cases h'.shape <;> rfl
    | _ => cases hs

/-- Where the attribute carries a validator its annotation is scalar (`hvl`): the new reading is the old one (`simple_unique`), and
    the validator accepts it as before. -/
theorem field_total {cname : Name} {kvs : List (Name × Json)} {f : Field} {av : Name × PyVal}
    (h : FieldReads (Rep E bad) kvs f av) (hv : runFieldVld E cname f av.2 = .ok ())
    (hS : ∀ x, Json.lookup kvs f.wireS = some x → Valid E bad f.ty x → Goal E bad f.ty x)
    {k : Nat} (hvl : f.vld = Vld.none ∨ simpleTyF k f.ty = true) :
    ∃ av', FieldStr (Str E) kvs f av' ∧ FieldReads (Rep E bad) kvs f av' ∧ runFieldVld E cname f av'.2 = .ok () := by
  obtain ⟨a, v⟩ := av
  cases hl : Json.lookup kvs f.wireS with
  | none =>
    obtain ⟨hd, hvn, hrn⟩ := h.2.2 hl
    cases (hvn : v = .none)
    exact ⟨_, .of_none hl (by rw [hd]; rfl), .of_none hl hd hrn, hv⟩
  | some x =>
    obtain ⟨hrx, hfa⟩ := h.2.1 x hl
    obtain ⟨v', hs', hr'⟩ := hS x hl ⟨v, hrx⟩
    refine ⟨_, .of_some hl hs', .of_some hl hr' hfa, ?_⟩
    rcases hvl with hnone | hsimple
    · simp [runFieldVld, hnone]
    · rwa [simple_unique hsimple hr' hrx]

theorem tuple_total {ts : List PyTy} {vs : List PyVal} {xs : List Json} (hf : F3 (Rep E bad) ts vs xs)
    (hS : ∀ t ∈ ts, ∀ x ∈ xs, Valid E bad t x → Goal E bad t x) :
    ∃ ys, F3 (fun t x y => Str E t x y) ts xs ys ∧ F3 (Rep E bad) ts ys xs := by
  induction hf with
  | nil => exact ⟨[], .nil, .nil⟩
  | @cons t v x ts vs xs h _ ih =>
    obtain ⟨ys, hs, hr⟩ := ih fun t ht x hx => hS t (List.mem_cons_of_mem _ ht) x (List.mem_cons_of_mem _ hx)
    obtain ⟨y, hy, hry⟩ := hS t List.mem_cons_self x List.mem_cons_self ⟨v, h⟩
    exact ⟨y :: ys, .cons hy hs, .cons hry hr⟩

theorem lemmaA (H : List PyTy) (hC : clsesOK E bad H = true) (j : Json)
    (HS : ∀ x, x.size < j.size → ∀ B, InU E bad H B → Valid E bad B x → Goal E bad B x) :
    ∀ ty, InU E bad H ty → ty.isUnionTy = false → Valid E bad ty j → Goal E bad ty j := by
  intro ty hty hnu ⟨w, (hr : Rep E bad ty w j)⟩
  obtain ⟨kf, hok⟩ := hty
  obtain ⟨hnb, hs⟩ := Rep_iff.mp hr
  cases kf with
  | zero => cases hok
  | succ kf =>
  unfold lightOK at hok
  simp only [hnb, Bool.false_or] at hok
  cases hh : E.hookFor ty with
  | some h =>
    -- a hook on an annotation that is no union: `return object_`, where `json.loads`' own object is a reading
    simp only [hh] at hok
    split at hok
    · cases hnu
    · rw [Bool.and_eq_true] at hok
      obtain rfl : h = .retSelf := by cases h <;> first | rfl | cases hok.1
      exact ⟨PyVal.ofJson j, Str.hook hh ⟨0, rfl⟩, selfRep_sound hok.2 hr⟩
  | none =>
    simp only [hh] at hok
    cases hs with
    | int | floatI | floatD | str | bool | none =>
      exact ⟨_, ⟨1, by simp [structTy, hh, coerceIntJ, PyVal.ofJson]⟩, hr⟩
    | literal hm => exact ⟨_, ⟨1, by simp [structTy, hh, hm]⟩, hr⟩
    | @enum e pe val hf hm =>
      refine ⟨_, ⟨1, ?_⟩, hr⟩
      cases val <;> simp [structTy, hh, hf, lookupEnum, hm, (find?_name PyEnum.name _ _ _ hf).2, EnumVal.toJson]
    | any => exact ⟨_, ⟨1, by simp [structTy, hh]⟩, Rep_iff.mpr ⟨hnb, .any (isOfJson_ofJson j)⟩⟩
    | obj => cases hok
    | @seq t vs xs hf =>
      obtain ⟨ys, hys⟩ := F2.exists fun x hx =>
        HS x (size_mem_arr xs x hx) t ⟨kf, hok⟩ (let ⟨w, _, hw⟩ := hf.mem_right x hx; ⟨w, hw⟩)
      obtain ⟨hs, hr'⟩ := hys.of_and
      exact ⟨_, Str.seq hh hs, Rep_iff.mpr ⟨hnb, .seq hr'.flip⟩⟩
    | @tuple ts vs xs hf =>
      obtain ⟨ys, hys, hr'⟩ := tuple_total hf fun t ht x hx =>
        HS x (size_mem_arr xs x hx) t ⟨kf, List.all_eq_true.mp hok t ht⟩
      exact ⟨_, Str.tuple hh hys, Rep_iff.mpr ⟨hnb, .tuple hr'⟩⟩
    | @dict kt vt ps kvs hnd hf =>
      rw [Bool.and_eq_true] at hok
      obtain ⟨ps', h⟩ := F2.exists (R := fun kv p' => EntryStr (Str E) kt vt kv p' ∧ EntryReads (Rep E bad) kt vt p' kv)
        fun kv hkv => by
          obtain ⟨p, _, _, hk2, hv⟩ := hf.mem_right kv hkv
          have hlt := size_mem_obj kvs kv hkv
          obtain ⟨vv, hvs, hvr⟩ := HS kv.2 hlt vt ⟨kf, hok.2⟩ ⟨_, hv⟩
          by_cases hk : kt = .str
          · exact ⟨(.str kv.1, vv), ⟨fun _ => rfl, fun h => absurd hk h, hvs⟩, ⟨fun _ => rfl, fun h => absurd hk h, hvr⟩⟩
          · have h0 := Json.size_pos kv.2
            obtain ⟨kk, hks, hkr⟩ := HS (.str kv.1) (by simp only [Json.size] at hlt ⊢; omega) kt ⟨kf, hok.1⟩ ⟨_, hk2 hk⟩
            exact ⟨(kk, vv), ⟨fun h => absurd h hk, fun _ => hks, hvs⟩, ⟨fun h => absurd h hk, fun _ => hkr, hvr⟩⟩
      obtain ⟨hs, hr'⟩ := h.of_and
      exact ⟨_, Str.dict hh hs, Rep_iff.mpr ⟨hnb, .dict hnd hr'.flip⟩⟩
    | @cls c cl vals kvs hc hnd hdecl hf hv =>
      have hcl := List.all_eq_true.mp hC cl (List.mem_of_find?_eq_some hc)
      simp only [clsOK, List.all_eq_true, Bool.and_eq_true, Bool.or_eq_true, beq_iff_eq] at hcl
      obtain ⟨vals', h'⟩ := F2.exists fun f hfm =>
        let ⟨_, _, hrd, hvl⟩ := (hf.and ((runVlds_iff hf).mp hv)).flip.mem_right f hfm
        field_total hrd hvl (fun x hx => HS x (size_lookup hx) f.ty ⟨lightFuel, (hcl f hfm).1⟩) (hcl f hfm).2
      obtain ⟨hs, hrv⟩ := h'.of_and
      obtain ⟨hr', hv'⟩ := hrv.of_and
      have hv' := (runVlds_iff hr').mpr hv'
      exact ⟨_, Str.cls hh hc hdecl hs hv', Rep_iff.mpr ⟨hnb, .cls hc hnd hdecl hr' hv'⟩⟩
    | alt | rawI | rawS => cases hnu

/-- `h` is the program that dispatches the union: the registered hook, else the disambiguator cattrs
    built.  `HA` is T1 at `j` for annotations other than unions, `HS` T1 at the parts of `j`. -/
theorem progOK_sound {H ts h j w} (hp : progOK E bad H (.union ts) = true)
    (hh : E.hookFor (.union ts) = some h ∨ E.hookFor (.union ts) = Option.none ∧ E.disambFor (.union ts) = some h)
    (HA : ∀ ty, InU E bad H ty → ty.isUnionTy = false → Valid E bad ty j → Goal E bad ty j)
    (HS : ∀ x, x.size < j.size → ∀ B, InU E bad H B → Valid E bad B x → Goal E bad B x)
    (hr : Rep E bad (.union ts) w j) : ∃ v', Run E h j v' ∧ Rep E bad (.union ts) v' j := by
  have hd : dispatchOK E bad (lightOK E bad H lightFuel) (.union ts) h = true := by
    rcases hh with hh | ⟨hh, hd⟩
    · simpa [progOK, hr.not_bad, hh] using hp
    · simpa [progOK, hr.not_bad, hh, hd] using hp
  simp only [dispatchOK, List.all_eq_true, Bool.or_eq_true] at hd
  obtain ⟨a, ha, w', hw'⟩ := hr.union_alt
  rcases hd a ha with hunk | hchk
  · cases hw'.shape <;> cases hunk
  · exact chk_sound E bad (lightOK E bad H lightFuel) (InU E bad H) (fun B hB => ⟨lightFuel, hB⟩) h true (.union ts)
      { ty := a } j (fun B hB hnu => HA B hB (hnu rfl)) HS hchk (.of_rep hw')

/-- `Optional[x]` goes to the handler of `x`; any other union is dispatched by a program that passed the checker (`progOK_sound`) -/
theorem lemmaU (H : List PyTy) (hP : progsOK E bad H = true) (j : Json)
    (HA : ∀ ty, InU E bad H ty → ty.isUnionTy = false → Valid E bad ty j → Goal E bad ty j)
    (HS : ∀ x, x.size < j.size → ∀ B, InU E bad H B → Valid E bad B x → Goal E bad B x) :
    ∀ ts, InU E bad H (.union ts) → Valid E bad (.union ts) j → Goal E bad (.union ts) j := by
  intro ts hty ⟨w, (hr : Rep E bad _ w j)⟩
  obtain ⟨kf, hok⟩ := hty
  have hnb := hr.not_bad
  cases kf with
  | zero => cases hok
  | succ kf =>
  unfold lightOK at hok
  simp only [hnb, Bool.false_or] at hok
  cases hh : E.hookFor (.union ts) with
  | some h =>
    simp only [hh] at hok
    obtain ⟨v', hrun, hrv⟩ := progOK_sound (List.all_eq_true.mp hP _ (any_eqb_sound hok)) (.inl hh) HA HS hr
    exact ⟨v', Str.hook hh hrun, hrv⟩
  | none =>
    simp only [hh] at hok
    split at hok
    · rename_i x ho
      simp only [Bool.and_eq_true, Bool.not_eq_true'] at hok
      by_cases hj : j = .null
      · subst hj
        exact ⟨.none, Str.opt_null hh ho, hr.none_iff.mpr rfl ▸ hr⟩
      · obtain ⟨v', hs, hk⟩ := HA x ⟨kf, hok.1⟩ hok.2 ⟨w, (hr.optional ho).resolve_left fun h => hj h.2⟩
        exact ⟨v', Str.opt hh ho hj hs, .of_alt hnb (optionalOf_mem ho).1 hk⟩
    · rename_i ho
      simp only [Bool.and_eq_true, Option.isSome_iff_exists] at hok
      obtain ⟨⟨hall, h, hd⟩, hin⟩ := hok
      obtain ⟨v', hrun, hrv⟩ := progOK_sound (List.all_eq_true.mp hP _ (any_eqb_sound hin)) (.inr ⟨hh, hd⟩) HA HS hr
      exact ⟨v', Str.disamb hh (by simpa using ho) hall hd hrun, hrv⟩

end

/-- **T1.** -/
theorem structure_total (H : List PyTy) (hP : progsOK E bad H = true) (hC : clsesOK E bad H = true) :
    ∀ (s : Nat) (j : Json), j.size ≤ s → ∀ ty, InU E bad H ty → Valid E bad ty j → Goal E bad ty j
  | 0, j, hs, _, _, _ => by have := Json.size_pos j; omega
  | s + 1, j, hs, ty, hty, hv => by
    have HS : ∀ x, x.size < j.size → ∀ B, InU E bad H B → Valid E bad B x → Goal E bad B x :=
      fun x hx B hB hvB => structure_total H hP hC s x (by omega) B hB hvB
    have HA := lemmaA H hC j HS
    cases ty with
    | union ts => exact lemmaU H hP j HA HS ts hty hv
    | _ => exact HA _ hty rfl hv

/-- The form the properties use: `k` is the fuel at which the closure check of `ty` was evaluated. -/
theorem T1 (H : List PyTy) (hP : progsOK E bad H = true) (hC : clsesOK E bad H = true) (ty : PyTy) (k : Nat)
    (hty : lightOK E bad H k ty = true) (j : Json) (v : PyVal) (n : Nat) (h : rep E bad n ty v j = true) :
    ∃ v' m, structTy E m ty j = .ok v' ∧ ∃ k', rep E bad k' ty v' j = true := by
  obtain ⟨v', ⟨m, hm⟩, ⟨k', hk'⟩⟩ := structure_total E bad H hP hC j.size j (Nat.le_refl _) ty ⟨k, hty⟩ ⟨v, n, h⟩
  exact ⟨v', m, hm, k', hk'⟩

theorem lightOK_succ (H : List PyTy) : ∀ (n : Nat) (ty : PyTy), lightOK E bad H n ty = true → lightOK E bad H (n + 1) ty = true
  | 0, _, h => nomatch h
  | n + 1, ty, h => by
    have ih := lightOK_succ H n
    unfold lightOK at h ⊢
    rw [Bool.or_eq_true] at h ⊢
    refine h.imp id fun h => ?_
    split at h
    · exact h
    -- the clauses that recur, in their order: seq dict tuple union
    split at h
    case h_1 => exact ih _ h
    case h_2 => rw [Bool.and_eq_true] at h ⊢; exact ⟨ih _ h.1, ih _ h.2⟩
    case h_3 => rw [List.all_eq_true] at h ⊢; exact fun t ht => ih t (h t ht)
    case h_4 =>
      split at h
      · rw [Bool.and_eq_true] at h ⊢; exact ⟨ih _ h.1, h.2⟩
      · exact h
    all_goals exact h

theorem InU.of_fuel {H : List PyTy} {n : Nat} {ty : PyTy} (h : lightOK E bad H n ty = true) : InU E bad H ty := ⟨n, h⟩

end LspVerif
