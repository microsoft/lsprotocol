/-
  `nrel` without fuel (`NRelShape`, `NRel_iff`) and the introduction rules for `Unstr`, whose proofs are
  the only place where the fuels of the parts of a value meet.
-/
import LspVerif.Props.RepLemmas
namespace LspVerif
open TestGen

mutual
theorem Json.beq_iff : ∀ a b : Json, Json.beq a b = true ↔ a = b
  | .null, b => by cases b <;> simp [Json.beq]
  | .bool _, b => by cases b <;> simp [Json.beq]
  | .int _, b => by cases b <;> simp [Json.beq]
  | .dec _, b => by cases b <;> simp [Json.beq]
  | .str _, b => by cases b <;> simp [Json.beq]
  | .arr xs, b => by cases b <;> simp [Json.beq, Json.beqList_iff xs]
  | .obj kvs, b => by cases b <;> simp [Json.beq, Json.beqKvs_iff kvs]
theorem Json.beqList_iff : ∀ xs ys : List Json, Json.beqList xs ys = true ↔ xs = ys
  | [], ys => by cases ys <;> simp [Json.beqList]
  | x :: xs, ys => by cases ys <;> simp [Json.beqList, Json.beq_iff x, Json.beqList_iff xs]
theorem Json.beqKvs_iff : ∀ a b : List (Name × Json), Json.beqKvs a b = true ↔ a = b
  | [], b => by cases b <;> simp [Json.beqKvs]
  | (k, x) :: a, b => by
    rcases b with _ | ⟨⟨l, y⟩, b⟩ <;> simp [Json.beqKvs, Json.beq_iff x, Json.beqKvs_iff a]
end

theorem Json.beq_refl (j : Json) : Json.beq j j = true := (Json.beq_iff j j).mpr rfl
theorem Json.beqList_refl : ∀ xs : List Json, Json.beqList xs xs = true := fun xs => (Json.beqList_iff xs xs).mpr rfl
theorem Json.beqList_eq : ∀ xs ys : List Json, Json.beqList xs ys = true → xs = ys := fun xs ys => (Json.beqList_iff xs ys).mp
theorem Json.beqKvs_refl : ∀ kvs : List (Name × Json), Json.beqKvs kvs kvs = true := fun kvs => (Json.beqKvs_iff kvs kvs).mpr rfl

variable (E : Env)

def ULe (f g : PyVal → Except Err Json) : Prop := ∀ v j, f v = .ok j → g v = .ok j

theorem rawEntry_mono {f g : PyVal → Except Err Json} (h : ULe f g) (kv : PyVal × PyVal) (r : Name × Json)
    (h' : rawEntry f kv = .ok r) : rawEntry g kv = .ok r :=
  Except.bind_mono (fun _ => id) (fun _ => Except.bind_mono (h _) (fun _ => id)) h'

theorem unstructEntry_mono {f f' g g' : PyVal → Except Err Json} (h : ULe f f') (hg : ULe g g') (kv : PyVal × PyVal)
    (r : Name × Json) (h' : unstructEntry f g kv = .ok r) : unstructEntry f' g' kv = .ok r :=
  Except.bind_mono (h _) (fun _ => Except.bind_mono (fun _ => id) (fun _ => Except.bind_mono (hg _) (fun _ => id))) h'

theorem rawJson_succ : ∀ (n : Nat) (v : PyVal) (j : Json), rawJson n v = .ok j → rawJson (n + 1) v = .ok j
  | 0, _, _, h => by cases h
  | n + 1, v, j, h => by
    have ih : ULe (rawJson n) (rawJson (n + 1)) := rawJson_succ n
    unfold rawJson
    cases v with
    | list xs | tuple xs => exact mapE_bind_mono (fun a _ => ih a) h
    | dict kvs => exact mapE_bind_mono (fun a _ => rawEntry_mono ih a) h
    | _ => exact h

theorem unstructFields_mono {f g : Option PyTy → PyVal → Except Err Json} (h : ∀ o v j, f o v = .ok j → g o v = .ok j)
    (vals : List (Name × PyVal)) :
    ∀ (fs : List Field) (out : List (Name × Json)), unstructFields f vals fs = .ok out → unstructFields g vals fs = .ok out
  | [], _, h' => h'
  | fd :: fs, out, h' => by
    rw [unstructFields_cons_ok_iff] at h' ⊢
    obtain ⟨v, hv, h'⟩ := h'
    refine ⟨v, hv, ?_⟩
    by_cases hw : fd.written v = true
    · rw [if_pos hw] at h' ⊢
      obtain ⟨x, rest, hx, hr, rfl⟩ := h'
      exact ⟨x, rest, h _ _ _ hx, unstructFields_mono h vals fs rest hr, rfl⟩
    · rw [if_neg hw] at h' ⊢
      exact unstructFields_mono h vals fs out h'

theorem unstruct_succ : ∀ (n : Nat) (o : Option PyTy) (v : PyVal) (j : Json),
    unstruct E n o v = .ok j → unstruct E (n + 1) o v = .ok j
  | 0, _, _, _, h => by cases h
  | n + 1, o, v, j, h => by
    have ih := unstruct_succ n
    unfold unstruct at h ⊢
    cases o with
    | none =>
      cases v with
      | inst c fs =>
        dsimp only at h ⊢
        split at h
        · cases h
        · exact Except.bind_mono (unstructFields_mono ih _ _) (fun _ => id) h
      | list xs | tuple xs => exact mapE_bind_mono (fun a _ => ih _ a) h
      | dict kvs => exact mapE_bind_mono (fun a _ => unstructEntry_mono (ih _) (ih _) a) h
      | enum e val => exact h
      | _ => exact rawJson_succ _ _ _ h
    | some ty =>
      cases ty with
      | union ts =>
        dsimp only at h ⊢
        split at h
        · split at h <;> rename_i hv
          · rw [if_pos hv]; exact h
          · rw [if_neg hv]; exact ih _ _ _ h
        · exact ih _ _ _ h
      | any => exact ih _ _ _ h
      | seq t =>
        cases v with
        | list xs | tuple xs => exact mapE_bind_mono (fun a _ => ih _ a) h
        | _ => exact h
      | dict kt vt =>
        cases v with
        | dict kvs => exact mapE_bind_mono (fun a _ => unstructEntry_mono (ih _) (ih _) a) h
        | _ => exact h
      | tuple ts =>
        cases v with
        | tuple xs | list xs => exact Except.bind_mono (zipE_mono (fun t => ih (some t)) ts xs) (fun _ => id) h
        | _ => exact h
      | cls c =>
        dsimp only at h ⊢
        split at h
        · exact Except.bind_mono (unstructFields_mono ih _ _) (fun _ => id) h
        · cases h
      | enum e => exact h
      | _ => exact rawJson_succ _ _ _ h

variable {E} in
theorem unstruct_mono {n m : Nat} (hnm : n ≤ m) {o : Option PyTy} {v : PyVal} {j : Json}
    (h : unstruct E n o v = .ok j) : unstruct E m o v = .ok j :=
  mono_of_succ (fun n => unstruct_succ E n o v j) hnm h

theorem rawJson_mono {n m : Nat} (hnm : n ≤ m) {v : PyVal} {j : Json}
    (h : rawJson n v = .ok j) : rawJson m v = .ok j :=
  mono_of_succ (fun n => rawJson_succ n v j) hnm h

def Unstr (o : Option PyTy) (v : PyVal) (j' : Json) : Prop := ∃ m, unstruct E m o v = .ok j'
def NRel (ty : PyTy) (j j' : Json) : Prop := ∃ k, nrel E k ty j j' = true

section
variable {E : Env}

def FieldRel (R : PyTy → Json → Json → Prop) (a b : List (Name × Json)) (f : Field) : Prop :=
  match Json.lookup a f.wireS, Json.lookup b f.wireS with
  | some x, some y => R f.ty x y
  | Option.none, some y => y = .null ∧ f.omitU = false
  | some x, Option.none => x = .null ∧ f.omitU = true
  | Option.none, Option.none => True

theorem FieldRel.imp {R S : PyTy → Json → Json → Prop} (h : ∀ t x y, R t x y → S t x y) {a b f}
    (hr : FieldRel R a b f) : FieldRel S a b f := by
  unfold FieldRel at hr ⊢
  split at hr
  · exact h _ _ _ hr
  all_goals exact hr

theorem FieldRel.of_some {R : PyTy → Json → Json → Prop} {a b f x y} (ha : Json.lookup a f.wireS = some x)
    (hb : Json.lookup b f.wireS = some y) (h : R f.ty x y) : FieldRel R a b f := by
  rw [FieldRel, ha, hb]; exact h

theorem FieldRel.of_written_null {R : PyTy → Json → Json → Prop} {a b f} (ha : Json.lookup a f.wireS = Option.none)
    (hb : Json.lookup b f.wireS = some .null) (ho : f.omitU = false) : FieldRel R a b f := by
  rw [FieldRel, ha, hb]; exact ⟨rfl, ho⟩

theorem FieldRel.of_omitted {R : PyTy → Json → Json → Prop} {a b f} (hb : Json.lookup b f.wireS = Option.none)
    (ho : f.omitU = true) (ha : ∀ x, Json.lookup a f.wireS = some x → x = .null) : FieldRel R a b f := by
  rw [FieldRel, hb]
  cases hl : Json.lookup a f.wireS with
  | some x => exact ⟨ha x hl, ho⟩
  | none => trivial

theorem relFields_iff {r : PyTy → Json → Json → Bool} {a b} : ∀ {fs : List Field},
    relFields r a b fs = true ↔ ∀ f ∈ fs, FieldRel (fun t x y => r t x y = true) a b f
  | [] => ⟨fun _ _ h => (nomatch h), fun _ => rfl⟩
  | f :: fs => by
    rw [relFields, Bool.and_eq_true, relFields_iff, List.forall_mem_cons, FieldRel]
    refine and_congr_left fun _ => ?_
    cases Json.lookup a f.wireS <;> cases Json.lookup b f.wireS <;> simp [Json.isNull_iff]

/-- the annotations at which `nrel` admits equal values outright: all but the four with parts -/
def PyTy.eqRel : PyTy → Prop
  | .cls _ | .seq _ | .dict _ _ | .tuple _ => False
  | _ => True

inductive NRelShape (E : Env) (R : PyTy → Json → Json → Prop) : PyTy → Json → Json → Prop
  | cls {c cl a b} : E.pkg.findCls c = some cl →
      keysNodup a = true → a.all (fun kv => cl.fields.any (·.wireS == kv.1)) = true →
      keysNodup b = true → b.all (fun kv => cl.fields.any (·.wireS == kv.1)) = true →
      (∀ f ∈ cl.fields, FieldRel R a b f) → NRelShape E R (.cls c) (.obj a) (.obj b)
  | seq {t xs ys} : F2 (R t) xs ys → NRelShape E R (.seq t) (.arr xs) (.arr ys)
  | dict {k t a b} : F2 (fun p q => p.1 = q.1 ∧ R t p.2 q.2) a b → NRelShape E R (.dict k t) (.obj a) (.obj b)
  | tuple {ts xs ys} : F3 R ts xs ys → NRelShape E R (.tuple ts) (.arr xs) (.arr ys)
  | alt {ts t j j'} : t ∈ ts → R t j j' → NRelShape E R (.union ts) j j'
  | eq {ty j} : ty.eqRel → NRelShape E R ty j j

theorem nrel_succ_iff {n ty j j'} : nrel E (n + 1) ty j j' = true ↔
    NRelShape E (fun t x y => nrel E n t x y = true) ty j j' := by
  conv => lhs; unfold nrel
  constructor
  · intro h
    cases ty <;> dsimp only at h
    case cls c =>
      split at h
      · rename_i hc
        simp only [Bool.and_eq_true] at h
        exact .cls hc h.1.1.1.1 h.1.1.1.2 h.1.1.2 h.1.2 (relFields_iff.mp h.2)
      · cases h
    case seq t =>
      split at h
      · exact .seq (all2_iff.mp h)
      · cases h
    case dict k t =>
      split at h
      · refine .dict ((all2_iff.mp h).imp fun _ _ hh => ?_)
        rwa [relEntry, Bool.and_eq_true, beq_iff_eq] at hh
      · cases h
    case tuple ts =>
      split at h
      · exact .tuple (all3_iff.mp h)
      · cases h
    case union ts =>
      rw [Bool.or_eq_true, List.any_eq_true, Json.beq_iff] at h
      rcases h with ⟨t, ht, h⟩ | rfl
      · exact .alt ht h
      · exact .eq trivial
    all_goals
      cases (Json.beq_iff _ _).mp h
      exact .eq trivial
  · intro h
    cases h with
    | cls hc h1 h2 h3 h4 h5 => simp only [hc, h1, h2, h3, h4, relFields_iff.mpr h5]; rfl
    | seq h => exact all2_iff.mpr h
    | dict h =>
      refine all2_iff.mpr (h.imp fun _ _ hh => ?_)
      rwa [relEntry, Bool.and_eq_true, beq_iff_eq]
    | tuple h => exact all3_iff.mpr h
    | alt ht h => simp only [Bool.or_eq_true, List.any_eq_true]; exact .inl ⟨_, ht, h⟩
    | eq he => cases ty <;> dsimp only <;> first | exact Json.beq_refl _ | rw [Json.beq_refl, Bool.or_true] | cases he

theorem NRelShape.imp {R S : PyTy → Json → Json → Prop} (h : ∀ t x y, R t x y → S t x y) {ty j j'}
    (hr : NRelShape E R ty j j') : NRelShape E S ty j j' := by
  cases hr with
  | cls hc h1 h2 h3 h4 h5 => exact .cls hc h1 h2 h3 h4 fun f hf => (h5 f hf).imp h
  | seq hr => exact .seq (hr.imp fun _ _ => h _ _ _)
  | dict hr => exact .dict (hr.imp fun _ _ hh => ⟨hh.1, h _ _ _ hh.2⟩)
  | tuple hr => exact .tuple (hr.imp h)
  | alt ht hr => exact .alt ht (h _ _ _ hr)
  | eq he => exact .eq he

theorem nrel_succ : ∀ {n ty j j'}, nrel E n ty j j' = true → nrel E (n + 1) ty j j' = true
  | n + 1, _, _, _, h => by
    rw [nrel_succ_iff] at h ⊢
    exact h.imp fun _ _ _ => nrel_succ

theorem nrel_mono {n m : Nat} (hnm : n ≤ m) {ty j j'} (h : nrel E n ty j j' = true) : nrel E m ty j j' = true :=
  mono_of_succ (P := fun n => nrel E n ty j j' = true) (fun _ => nrel_succ) hnm h

theorem FieldRel.fuel {r : Nat → PyTy → Json → Json → Prop} {a b f} (h : FieldRel (fun t x y => ∃ n, r n t x y) a b f) :
    ∃ n, FieldRel (r n) a b f := by
  unfold FieldRel at h ⊢
  split at h
  · exact h
  all_goals exact ⟨0, h⟩

theorem NRelShape.fuel {ty j j'} (h : NRelShape E (NRel E) ty j j') :
    ∃ n, NRelShape E (fun t x y => nrel E n t x y = true) ty j j' := by
  cases h with
  | cls hc h1 h2 h3 h4 h5 =>
    obtain ⟨n, h5⟩ := forall_mem_fuel (r := fun n => FieldRel (fun t x y => nrel E n t x y = true) _ _)
      (fun _ _ _ hnm h => h.imp fun _ _ _ => nrel_mono hnm) fun f hf => (h5 f hf).fuel
    exact ⟨n, .cls hc h1 h2 h3 h4 h5⟩
  | @seq t _ _ hr =>
    obtain ⟨n, hr⟩ := F2.fuel (r := fun n x y => nrel E n t x y = true) (fun _ _ _ _ hnm => nrel_mono hnm) hr
    exact ⟨n, .seq hr⟩
  | @dict _ t _ _ hr =>
    obtain ⟨n, hr⟩ := F2.fuel (r := fun n (p q : Name × Json) => p.1 = q.1 ∧ nrel E n t p.2 q.2 = true)
      (fun _ _ _ _ hnm h => ⟨h.1, nrel_mono hnm h.2⟩) (hr.imp fun _ _ h => h.2.elim fun n hn => ⟨n, h.1, hn⟩)
    exact ⟨n, .dict hr⟩
  | tuple hr =>
    obtain ⟨n, hr⟩ := F3.fuel (r := fun n t x y => nrel E n t x y = true) (fun _ _ _ _ _ hnm => nrel_mono hnm) hr
    exact ⟨n, .tuple hr⟩
  | alt ht hr => exact hr.elim fun n hr => ⟨n, .alt ht hr⟩
  | eq he => exact ⟨0, .eq he⟩

theorem NRel_iff {ty j j'} : NRel E ty j j' ↔ NRelShape E (NRel E) ty j j' := by
  constructor
  · rintro ⟨n, h⟩
    cases n with
    | zero => cases h
    | succ n => exact (nrel_succ_iff.mp h).imp fun _ _ _ h => ⟨_, h⟩
  · intro h
    obtain ⟨n, h⟩ := h.fuel
    exact ⟨n + 1, nrel_succ_iff.mpr h⟩

theorem NRel.eq {ty j} (he : ty.eqRel) : NRel E ty j j := NRel_iff.mpr (.eq he)

theorem NRel.scalar {ty j j'} (hj : (match j with | .arr _ | .obj _ => false | _ => true) = true)
    (h : NRel E ty j j') : j' = j := by
  obtain ⟨k, h⟩ := h
  induction k generalizing ty with
  | zero => cases h
  | succ k ih =>
    cases nrel_succ_iff.mp h with
    | alt _ h => exact ih h
    | eq _ => rfl
    | _ => cases hj

end

mutual
theorem ofJson_raw : ∀ (v : PyVal) (j : Json), isOfJson v j = true → ∃ m, rawJson m v = .ok j
  | .none, j, h => by cases j with | null => exact ⟨1, rfl⟩ | _ => cases h
  | .bool a, j, h => by cases j with | bool b => cases eq_of_beq h; exact ⟨1, rfl⟩ | _ => cases h
  | .int a, j, h => by cases j with | int b => cases eq_of_beq h; exact ⟨1, rfl⟩ | _ => cases h
  | .str a, j, h => by cases j with | str b => cases eq_of_beq h; exact ⟨1, rfl⟩ | _ => cases h
  | .float d, j, h => by
    cases j with
    | dec b => cases d with | dec a => cases eq_of_beq h; exact ⟨1, rfl⟩ | _ => cases h
    | _ => cases h
  | .list vs, j, h => by
    cases j with
    | arr xs =>
      obtain ⟨m, hm⟩ := ofJsonL_raw vs xs h
      exact ⟨m + 1, by simp only [rawJson, hm]; rfl⟩
    | _ => cases h
  | .dict ps, j, h => by
    cases j with
    | obj kvs =>
      obtain ⟨m, hm⟩ := ofJsonK_raw ps kvs h
      exact ⟨m + 1, by simp only [rawJson, hm]; rfl⟩
    | _ => cases h
  | .strOf _, j, h => by cases j <;> cases h
  | .enum _ _, j, h => by cases j <;> cases h
  | .inst _ _, j, h => by cases j <;> cases h
  | .tuple _, j, h => by cases j <;> cases h
theorem ofJsonL_raw : ∀ (vs : List PyVal) (xs : List Json), isOfJsonL vs xs = true → ∃ m, mapE (rawJson m) vs = .ok xs
  | [], [], _ => ⟨0, rfl⟩
  | [], _ :: _, h => by cases h
  | _ :: _, [], h => by cases h
  | v :: vs, x :: xs, h => by
    rw [isOfJsonL, Bool.and_eq_true] at h
    obtain ⟨m1, h1⟩ := ofJson_raw v x h.1
    obtain ⟨m2, h2⟩ := ofJsonL_raw vs xs h.2
    exact ⟨max m1 m2, mapE_cons_ok_iff.mpr ⟨x, xs, rawJson_mono (Nat.le_max_left _ _) h1,
      mapE_mono (fun a _ b => rawJson_mono (Nat.le_max_right _ _)) h2, rfl⟩⟩
theorem ofJsonK_raw : ∀ (ps : List (PyVal × PyVal)) (kvs : List (Name × Json)), isOfJsonK ps kvs = true →
    ∃ m, mapE (rawEntry (rawJson m)) ps = .ok kvs
  | [], [], _ => ⟨0, rfl⟩
  | [], _ :: _, h => by cases h
  | (k', v) :: ps, [], h => by cases k' <;> cases h
  | (k', v) :: ps, (k, x) :: kvs, h => by
    cases k' with
    | str s =>
      simp only [isOfJsonK, Bool.and_eq_true, beq_iff_eq] at h
      obtain ⟨⟨rfl, hv⟩, hrest⟩ := h
      obtain ⟨m1, h1⟩ := ofJson_raw v x hv
      obtain ⟨m2, h2⟩ := ofJsonK_raw ps kvs hrest
      refine ⟨max m1 m2, mapE_cons_ok_iff.mpr ⟨(s, x), kvs, ?_,
        mapE_mono (fun a _ => rawEntry_mono (fun w y => rawJson_mono (Nat.le_max_right _ _)) a) h2, rfl⟩⟩
      simp only [rawEntry, rawJson_mono (Nat.le_max_left m1 m2) h1]; rfl
    | _ => cases h
end

/-- an item `json.dumps` accepts: its key is a str (or str-enum member), which the converter passes through -/
theorem rawEntry_unstructEntry {n : Nat} (ih : ULe (rawJson n) (unstruct E n Option.none)) (kv : PyVal × PyVal)
    (r : Name × Json) (h : rawEntry (rawJson n) kv = .ok r) :
    unstructEntry (unstruct E n Option.none) (unstruct E n Option.none) kv = .ok r := by
  -- the value took fuel, so there is fuel for the key
  unfold rawEntry at h
  cases n with
  | zero => split at h <;> cases h
  | succ n =>
    unfold unstructEntry
    split at h
    case h_3 => cases h
    all_goals
      rename_i s hs
      rw [hs]
      exact Except.bind_mono (k' := fun x => Except.ok (s, x)) (ih _) (fun _ => id) h

/-- What `json.dumps` accepts unchanged, `converter.unstructure(v)` returns unchanged (at the same fuel):
    such a value holds no class instance, and the two agree on everything else. -/
theorem rawJson_unstruct : ∀ (n : Nat) (v : PyVal) (j : Json), rawJson n v = .ok j → unstruct E n Option.none v = .ok j
  | 0, _, _, h => by cases h
  | n + 1, v, j, h => by
    have ih : ULe (rawJson n) (unstruct E n Option.none) := rawJson_unstruct n
    cases v with
    | inst c fs => cases h
    | list xs | tuple xs => exact mapE_bind_mono (fun a _ => ih a) h
    | dict kvs => exact mapE_bind_mono (fun a _ => rawEntry_unstructEntry E ih a) h
    | enum e val => exact h
    | _ => exact h

theorem ofJson_unstruct (v : PyVal) (j : Json) (h : isOfJson v j = true) : ∃ m, unstruct E m Option.none v = .ok j :=
  (ofJson_raw v j h).imp fun m => rawJson_unstruct E m v j

theorem ofJsonL_unstruct : ∀ (vs : List PyVal) (xs : List Json), isOfJsonL vs xs = true →
    ∃ m, mapE (unstruct E m Option.none) vs = .ok xs :=
  fun vs xs h => (ofJsonL_raw vs xs h).imp fun m => mapE_mono fun a _ => rawJson_unstruct E m a

theorem ofJsonK_unstruct : ∀ (ps : List (PyVal × PyVal)) (kvs : List (Name × Json)), isOfJsonK ps kvs = true →
    ∃ m, mapE (unstructEntry (unstruct E m Option.none) (unstruct E m Option.none)) ps = .ok kvs :=
  fun ps kvs h => (ofJsonK_raw ps kvs h).imp fun m =>
    mapE_mono fun a _ => rawEntry_unstructEntry E (rawJson_unstruct E m) a

section
variable {E : Env}

/- The rules are named after the annotation whose handler runs (`seq`, `tuple`, `dict`, `cls`, …); those for `unstructure(v)`,
   which dispatches on the runtime class of the value, carry a `V` (`listV`, `tupleV`, `dictV`, `instV`). -/

theorem Unstr.elems {o vs ys} (h : F2 (Unstr E o) vs ys) : ∃ n, mapE (unstruct E n o) vs = .ok ys :=
  (F2.fuel (r := fun n v y => unstruct E n o v = .ok y) (fun _ _ _ _ hnm => unstruct_mono hnm) h).imp
    fun _ => mapE_ok_iff.mpr

theorem Unstr.seq {t vs ys} (h : F2 (Unstr E (some t)) vs ys) : Unstr E (some (.seq t)) (.list vs) (.arr ys) :=
  (Unstr.elems h).elim fun n hn => ⟨n + 1, by simp only [unstruct, hn]; rfl⟩

theorem Unstr.listV {vs ys} (h : F2 (Unstr E Option.none) vs ys) : Unstr E Option.none (.list vs) (.arr ys) :=
  (Unstr.elems h).elim fun n hn => ⟨n + 1, by simp only [unstruct, hn]; rfl⟩

theorem Unstr.tupleV {vs ys} (h : F2 (Unstr E Option.none) vs ys) : Unstr E Option.none (.tuple vs) (.arr ys) :=
  (Unstr.elems h).elim fun n hn => ⟨n + 1, by simp only [unstruct, hn]; rfl⟩

theorem Unstr.tuple {ts vs ys} (h : F3 (fun t v y => Unstr E (some t) v y) ts vs ys) :
    Unstr E (some (.tuple ts)) (.tuple vs) (.arr ys) := by
  obtain ⟨n, h⟩ := F3.fuel (r := fun n t v y => unstruct E n (some t) v = .ok y) (fun _ _ _ _ _ hnm => unstruct_mono hnm) h
  exact ⟨n + 1, by simp only [unstruct, zipE_ok h]; rfl⟩

def EntryUnstr (E : Env) (ko vo : Option PyTy) (p : PyVal × PyVal) (q : Name × Json) : Prop :=
  Unstr E ko p.1 (.str q.1) ∧ Unstr E vo p.2 q.2

theorem Unstr.entries {ko vo ps out} (h : F2 (EntryUnstr E ko vo) ps out) :
    ∃ n, mapE (unstructEntry (unstruct E n ko) (unstruct E n vo)) ps = .ok out := by
  obtain ⟨n, h⟩ := F2.fuel
    (r := fun n (p : PyVal × PyVal) (q : Name × Json) => unstruct E n ko p.1 = .ok (.str q.1) ∧ unstruct E n vo p.2 = .ok q.2)
    (fun _ _ _ _ hnm h => ⟨unstruct_mono hnm h.1, unstruct_mono hnm h.2⟩)
    (h.imp fun _ _ ⟨⟨n, hk⟩, m, hv⟩ =>
      ⟨max n m, unstruct_mono (Nat.le_max_left _ _) hk, unstruct_mono (Nat.le_max_right _ _) hv⟩)
  exact ⟨n, mapE_ok_iff.mpr (h.imp fun _ _ h => by simp only [unstructEntry, h.1, h.2]; rfl)⟩

theorem Unstr.dict {kt vt ps out} (h : F2 (EntryUnstr E (some kt) (some vt)) ps out) :
    Unstr E (some (.dict kt vt)) (.dict ps) (.obj out) :=
  (Unstr.entries h).elim fun n hn => ⟨n + 1, by simp only [unstruct, hn]; rfl⟩

theorem Unstr.dictV {ps out} (h : F2 (EntryUnstr E Option.none Option.none) ps out) :
    Unstr E Option.none (.dict ps) (.obj out) :=
  (Unstr.entries h).elim fun n hn => ⟨n + 1, by simp only [unstruct, hn]; rfl⟩

inductive FieldsUnstr (E : Env) (vals : List (Name × PyVal)) : List Field → List (Name × Json) → Prop
  | nil : FieldsUnstr E vals [] []
  | write {f fs v x out} : lookupAttr vals f.name = some v → f.written v = true → Unstr E (some f.ty) v x →
      FieldsUnstr E vals fs out → FieldsUnstr E vals (f :: fs) ((f.wireU, x) :: out)
  | skip {f fs v out} : lookupAttr vals f.name = some v → f.written v = false →
      FieldsUnstr E vals fs out → FieldsUnstr E vals (f :: fs) out

theorem FieldsUnstr.fuel {vals fs out} (h : FieldsUnstr E vals fs out) : ∃ n, unstructFields (unstruct E n) vals fs = .ok out := by
  induction h with
  | nil => exact ⟨0, rfl⟩
  | write hl hw hu _ ih =>
    obtain ⟨n, hu⟩ := hu
    obtain ⟨m, ih⟩ := ih
    refine ⟨max n m, unstructFields_cons_ok_iff.mpr ⟨_, hl, ?_⟩⟩
    rw [if_pos hw]
    exact ⟨_, _, unstruct_mono (Nat.le_max_left _ _) hu,
      unstructFields_mono (fun _ _ _ => unstruct_mono (Nat.le_max_right _ _)) _ _ _ ih, rfl⟩
  | skip hl hw _ ih =>
    obtain ⟨m, ih⟩ := ih
    refine ⟨m, unstructFields_cons_ok_iff.mpr ⟨_, hl, ?_⟩⟩
    rw [if_neg (by rw [hw]; exact Bool.false_ne_true)]
    exact ih

theorem Unstr.cls {c c' cl vals out} (hc : E.pkg.findCls c = some cl) (h : FieldsUnstr E vals cl.fields out) :
    Unstr E (some (.cls c)) (.inst c' vals) (.obj out) :=
  h.fuel.elim fun n hn => ⟨n + 1, by simp only [unstruct, hc, hn]; rfl⟩

theorem Unstr.instV {c cl vals out} (hc : E.pkg.findCls c = some cl) (h : FieldsUnstr E vals cl.fields out) :
    Unstr E Option.none (.inst c vals) (.obj out) :=
  h.fuel.elim fun n hn => ⟨n + 1, by simp only [unstruct, hc, hn]; rfl⟩

theorem Unstr.union {ts v j} (ho : PyTy.optionalOf ts = Option.none) (h : Unstr E Option.none v j) :
    Unstr E (some (.union ts)) v j :=
  h.elim fun m hm => ⟨m + 1, by simp only [unstruct, ho]; exact hm⟩

theorem Unstr.opt_none {ts x} (ho : PyTy.optionalOf ts = some x) : Unstr E (some (.union ts)) .none .null :=
  ⟨1, by simp only [unstruct, ho]; rfl⟩

theorem Unstr.opt {ts x v j} (ho : PyTy.optionalOf ts = some x) (hv : v ≠ .none) (h : Unstr E x.handlerOf v j) :
    Unstr E (some (.union ts)) v j := by
  have hn : v.isNoneV = false := by cases v <;> first | rfl | exact absurd rfl hv
  exact h.elim fun m hm => ⟨m + 1, by simp only [unstruct, ho, hn]; exact hm⟩

/-- at an annotation without parts `json.dumps` takes the value as it is, and so do the handler of the
    annotation and `unstructure(v)` -/
theorem RepShape.unstr_flat {R ty v j} (h : RepShape E R ty v j) (he : ty.eqRel) (hu : ∀ ts, ty ≠ .union ts) :
    Unstr E (some ty) v j ∧ Unstr E Option.none v j := by
  cases h with
  | any ho =>
    have hD := ofJson_unstruct E _ _ ho
    exact ⟨hD.elim fun m hm => ⟨m + 1, hm⟩, hD⟩
  | obj ho =>
    obtain ⟨m, hm⟩ := ofJson_raw _ _ ho
    exact ⟨⟨m + 1, rawJson_succ m _ _ hm⟩, ⟨m, rawJson_unstruct E m _ _ hm⟩⟩
  | cls | seq | dict | tuple => cases he
  | alt | rawI | rawS => exact (hu _ rfl).elim
  | _ => exact ⟨⟨1, rfl⟩, ⟨1, rfl⟩⟩

theorem Unstr.strV (s : Name) : Unstr E Option.none (.str s) (.str s) := ⟨1, rfl⟩

theorem Unstr.str (s : Name) : Unstr E (some .str) (.str s) (.str s) := ⟨1, rfl⟩

theorem Unstr.intV (i : Int) : Unstr E Option.none (.int i) (.int i) := ⟨1, rfl⟩

end

end LspVerif
