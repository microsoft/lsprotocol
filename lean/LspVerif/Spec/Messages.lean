/-
  Specification of the JSON-RPC message classes and of the method catalogue (C09); the expected
  fields carry the omit-or-write flag that C10 checks (Props/C10.lean).
-/
import LspVerif.Spec.PySpec
namespace LspVerif

/-! `log2 n / 8` and `b - 256 ^ k` rely on the leading 0x01 byte of the encoding (Core/Name.lean): a `k`-byte name lies in
    `[256^k, 2·256^k)`. -/

def Name.byteLen (n : Name) : Nat := Nat.log2 n / 8

def Name.append (a b : Name) : Name :=
  let k := b.byteLen
  a * 256 ^ k + (b - 256 ^ k)

def Name.endsWith (a s : Name) : Bool :=
  let k := s.byteLen
  a.byteLen ≥ k && a % 256 ^ k == s - 256 ^ k

def Name.dropSuffix (a s : Name) : Name := a / 256 ^ s.byteLen

example : Name.append n!"ab" n!"cd" = n!"abcd" := by decide
example : Name.endsWith n!"FooRequest" n!"Request" = true := by decide
example : Name.endsWith n!"Request" n!"FooRequest" = false := by decide
example : Name.dropSuffix n!"FooRequest" n!"Request" = n!"Foo" := by decide
example : Name.append n!"" n!"x" = n!"x" := by decide

def nmBytesOf : Nat → Nat → List Nat → List Nat
  | 0, _, acc => acc
  | k + 1, n, acc => nmBytesOf k (n / 256) ((n % 256) :: acc)
def nmBytes (n : Name) : List Nat := nmBytesOf (Name.byteLen n) n []
def nmOfBytes (bs : List Nat) : Name := bs.foldl (fun acc b => acc * 256 + b) 1
def isUpperB (b : Nat) : Bool := 65 ≤ b && b ≤ 90
def isLowerB (b : Nat) : Bool := 97 ≤ b && b ≤ 122
def isDigitB (b : Nat) : Bool := 48 ≤ b && b ≤ 57
def toUpperB (b : Nat) : Nat := if isLowerB b then b - 32 else b
def toLowerB (b : Nat) : Nat := if isUpperB b then b + 32 else b

/-- The documented class-name convention for a message without `typeName`: the method with a
    leading `$/` dropped, split at `/`, `_` and lower/digit→Upper boundaries, each part
    capitalised (first letter upper, rest lower): textDocument/didSave ↦ TextDocumentDidSave. -/
def camelParts : Bool → Option Nat → List Nat → List Nat
  | _, _, [] => []
  | start, prev, b :: rest =>
    if b == 47 || b == 95 then camelParts true none rest            -- '/' or '_'
    else
      let boundary := start || (isUpperB b && (match prev with | some p => isLowerB p || isDigitB p | none => false))
      (if boundary then toUpperB b else toLowerB b) :: camelParts false (some b) rest

def deriveClassBase (method : Name) : Name :=
  let bs := nmBytes method
  let bs := match bs with | 36 :: 47 :: rest => rest | _ => bs      -- "$/"
  nmOfBytes (camelParts true none bs)

example : deriveClassBase n!"textDocument/didSave" = n!"TextDocumentDidSave" := by decide +kernel
example : deriveClassBase n!"$/cancelRequest" = n!"CancelRequest" := by decide +kernel


def withSuffix (t s : Name) : Name := if t.endsWith s then t else t.append s

def Request.baseName (r : Request) : Name := match r.typeName with | some t => t | none => deriveClassBase r.method
def Notification.baseName (n : Notification) : Name := match n.typeName with | some t => t | none => deriveClassBase n.method
def Request.cls (r : Request) : Option Name := some (withSuffix r.baseName n!"Request")
def Request.respCls (r : Request) : Option Name :=
  r.cls.map (fun c => (c.dropSuffix n!"Request").append n!"Response")
def Notification.cls (n : Notification) : Option Name := some (withSuffix n.baseName n!"Notification")

/-- an `and` params / registration-options type is the generated class named after the message class -/
def msgTyOf (M : Model) (cls suffix : Name) : Ty → PyTy
  | .and _ => .cls (cls.append suffix)
  | t => pyTyOf M tyFuel t

def idTy : PyTy := .union [.int, .str]

/-- `omitDflt := false` on `jsonrpc`, `method`, `result` mirrors `_SPECIAL_PROPERTIES` / `is_special_property` (types.py), which
    `_hooks._omit` turns into `omit_if_default=False`: these members are written even at their default (`"result": null`) -/
def envelopeJsonrpc : ExpField :=
  { wire := n!"jsonrpc", ty := .str, required := false, dflt := .str n!"2.0", vld := .none, omitDflt := false }

def expectedRequestFields (M : Model) (r : Request) (cls : Name) : List ExpField :=
  [ { wire := n!"id", ty := idTy, required := true, dflt := .nothing, vld := .none, omitDflt := true },
    (match r.params with
     | some t => { wire := n!"params", ty := msgTyOf M cls n!"Params" t, required := true, dflt := .nothing, vld := .none, omitDflt := true }
     | none => { wire := n!"params", ty := .none, required := false, dflt := .none, vld := .none, omitDflt := true }),
    { wire := n!"method", ty := .literal [r.method], required := false, dflt := .str r.method, vld := .none, omitDflt := false },
    envelopeJsonrpc ]

def expectedResponseFields (M : Model) (r : Request) : List ExpField :=
  [ { wire := n!"id", ty := idTy.optional, required := true, dflt := .nothing, vld := .none, omitDflt := true },
    { wire := n!"result", ty := pyTyOf M tyFuel r.result, required := false, dflt := .none, vld := .none, omitDflt := false },
    envelopeJsonrpc ]

def expectedNotificationFields (M : Model) (n : Notification) (cls : Name) : List ExpField :=
  [ (match n.params with
     | some t => { wire := n!"params", ty := msgTyOf M cls n!"Params" t, required := true, dflt := .nothing, vld := .none, omitDflt := true }
     | none => { wire := n!"params", ty := .none, required := false, dflt := .none, vld := .none, omitDflt := true }),
    { wire := n!"method", ty := .literal [n.method], required := false, dflt := .str n.method, vld := .inLit [n.method], omitDflt := false },
    envelopeJsonrpc ]

def optTyEq : Option PyTy → Option PyTy → Bool
  | none, none => true
  | some a, some b => PyTy.beq a b
  | _, _ => false

/-- Everything C09 states about one request. -/
def RequestCatalogued (M : Model) (P : Pkg) (r : Request) : Prop :=
  ∃ cls resp, r.cls = some cls ∧ r.respCls = some resp ∧
    -- the params type and the registration-options type the metamodel declares
    (∃ e, P.methodToTypes.filter (·.method == r.method) = [e] ∧
      e.req = cls ∧ e.resp = some resp ∧
      optTyEq e.params (r.params.map (msgTyOf M cls n!"Params")) = true ∧
      optTyEq e.regOpts (r.regOpts.map (msgTyOf M cls n!"Options")) = true) ∧
    -- the envelope shape includes the request class's default method: the method string
    (∃ c, P.findCls cls = some c ∧ classMismatches "" (expectedRequestFields M r cls) c = []) ∧
    (∃ c, P.findCls resp = some c ∧ classMismatches "" (expectedResponseFields M r) c = []) ∧
    P.directions.filter (·.1 == r.method) = [(r.method, r.direction)] ∧
    (P.constants.filter (·.2 == r.method)).length = 1

def NotificationCatalogued (M : Model) (P : Pkg) (n : Notification) : Prop :=
  ∃ cls, n.cls = some cls ∧
    (∃ e, P.methodToTypes.filter (·.method == n.method) = [e] ∧
      e.req = cls ∧ e.resp = none ∧
      optTyEq e.params (n.params.map (msgTyOf M cls n!"Params")) = true ∧
      optTyEq e.regOpts (n.regOpts.map (msgTyOf M cls n!"Options")) = true) ∧
    (∃ c, P.findCls cls = some c ∧ classMismatches "" (expectedNotificationFields M n cls) c = []) ∧
    P.directions.filter (·.1 == n.method) = [(n.method, n.direction)] ∧
    (P.constants.filter (·.2 == n.method)).length = 1

def Model.methods (M : Model) : List Name := M.requests.map (·.method) ++ M.notifications.map (·.method)

/-- "... and for nothing else": every catalogue entry, direction entry and method constant
    belongs to a method of the metamodel. -/
def NothingElse (M : Model) (P : Pkg) : Prop :=
  (∀ e ∈ P.methodToTypes, e.method ∈ M.methods) ∧
  (∀ d ∈ P.directions, d.1 ∈ M.methods) ∧
  (∀ c ∈ P.constants, c.2 ∈ M.methods)

mutual
def PyTy.hasUnknown : PyTy → Bool
  | .unknown _ => true
  | .seq t => t.hasUnknown
  | .dict k v => k.hasUnknown || v.hasUnknown
  | .tuple ts => PyTy.anyUnknown ts
  | .union ts => PyTy.anyUnknown ts
  | _ => false
def PyTy.anyUnknown : List PyTy → Bool
  | [] => false
  | t :: ts => t.hasUnknown || PyTy.anyUnknown ts
end

/-- Every protocol type the module defines is in the registry, and every annotation of every
    class resolved (no forward reference left unresolved by the registry). -/
def RegistryComplete (P : Pkg) : Prop :=
  (∀ n ∈ P.defined, n ∈ P.registry) ∧
  (∀ c ∈ P.classes, ∀ f ∈ c.fields, f.ty.hasUnknown = false) ∧
  (∀ a ∈ P.aliases, a.2.hasUnknown = false)

def theOnly {α} : List α → Option α
  | [x] => some x
  | _ => none

theorem theOnly_some {α} {xs : List α} {x : α} (h : theOnly xs = some x) : xs = [x] := by
  unfold theOnly at h
  split at h <;> cases h
  rfl

def catalogueEntryOK (P : Pkg) (method cls : Name) (resp : Option Name) (params regOpts : Option PyTy) : Bool :=
  match theOnly (P.methodToTypes.filter (·.method == method)) with
  | some e => e.req == cls && e.resp == resp && optTyEq e.params params && optTyEq e.regOpts regOpts
  | none => false

def classOK (P : Pkg) (cls : Name) (exp : List ExpField) : Bool :=
  match P.findCls cls with
  | some c => (classMismatches "" exp c).isEmpty
  | none => false

def dirConstOK (P : Pkg) (method direction : Name) : Bool :=
  (match theOnly (P.directions.filter (·.1 == method)) with
   | some d => d.1 == method && d.2 == direction
   | none => false) &&
  (P.constants.filter (·.2 == method)).length == 1

def requestCatalogued (M : Model) (P : Pkg) (r : Request) : Bool :=
  match r.cls, r.respCls with
  | some cls, some resp =>
    catalogueEntryOK P r.method cls (some resp) (r.params.map (msgTyOf M cls n!"Params")) (r.regOpts.map (msgTyOf M cls n!"Options")) &&
    classOK P cls (expectedRequestFields M r cls) &&
    classOK P resp (expectedResponseFields M r) &&
    dirConstOK P r.method r.direction
  | _, _ => false

def notificationCatalogued (M : Model) (P : Pkg) (n : Notification) : Bool :=
  match n.cls with
  | some cls =>
    catalogueEntryOK P n.method cls none (n.params.map (msgTyOf M cls n!"Params")) (n.regOpts.map (msgTyOf M cls n!"Options")) &&
    classOK P cls (expectedNotificationFields M n cls) &&
    dirConstOK P n.method n.direction
  | none => false

def nothingElse (M : Model) (P : Pkg) : Bool :=
  P.methodToTypes.all (fun e => M.methods.contains e.method) &&
  P.directions.all (fun d => M.methods.contains d.1) &&
  P.constants.all (fun c => M.methods.contains c.2)

/-- Subset test by merging (linear when both lists are sorted ascending, which is how the
    translator emits them; soundness below needs no sortedness). -/
def subMerge : Nat → List Name → List Name → Bool
  | _, [], _ => true
  | _, _ :: _, [] => false
  | 0, _ :: _, _ :: _ => false
  | fuel + 1, a :: as, b :: bs =>
    if a == b then subMerge fuel as (b :: bs)
    else if b < a then subMerge fuel (a :: as) bs
    else false

theorem subMerge_sound (fuel : Nat) (xs ys : List Name) (h : subMerge fuel xs ys = true) : ∀ x ∈ xs, x ∈ ys := by
  fun_induction subMerge fuel xs ys with
  | case1 => nofun
  | case2 | case3 | case6 => cases h
  | case4 fuel a as b bs hab ih => cases eq_of_beq hab; exact List.forall_mem_cons.2 ⟨.head _, ih h⟩
  -- the head of `ys` is the smaller one and is passed over
  | case5 fuel a as b bs _ _ ih => exact fun x hx => .tail _ (ih h x hx)

def registryComplete (P : Pkg) : Bool :=
  subMerge (P.defined.length + P.registry.length) P.defined P.registry &&
  P.classes.all (fun c => c.fields.all (fun f => !f.ty.hasUnknown)) &&
  P.aliases.all (fun a => !a.2.hasUnknown)

theorem catalogueEntryOK_sound {P : Pkg} {method cls : Name} {resp : Option Name} {params regOpts : Option PyTy}
    (h : catalogueEntryOK P method cls resp params regOpts = true) :
    ∃ e, P.methodToTypes.filter (·.method == method) = [e] ∧ e.req = cls ∧ e.resp = resp ∧
      optTyEq e.params params = true ∧ optTyEq e.regOpts regOpts = true := by
  unfold catalogueEntryOK at h
  split at h
  · next e he =>
    simp only [Bool.and_eq_true, beq_iff_eq] at h
    exact ⟨e, theOnly_some he, h.1.1.1, h.1.1.2, h.1.2, h.2⟩
  · cases h

theorem classOK_sound {P : Pkg} {cls : Name} {exp : List ExpField} (h : classOK P cls exp = true) :
    ∃ c, P.findCls cls = some c ∧ classMismatches "" exp c = [] := by
  unfold classOK at h
  split at h
  · next c hc => exact ⟨c, hc, List.isEmpty_iff.1 h⟩
  · cases h

theorem dirConstOK_sound {P : Pkg} {method direction : Name} (h : dirConstOK P method direction = true) :
    P.directions.filter (·.1 == method) = [(method, direction)] ∧ (P.constants.filter (·.2 == method)).length = 1 := by
  rw [dirConstOK, Bool.and_eq_true] at h
  refine ⟨?_, eq_of_beq h.2⟩
  have h1 := h.1
  split at h1
  · next d hd =>
    rw [Bool.and_eq_true] at h1
    rw [theOnly_some hd, ← eq_of_beq h1.1, ← eq_of_beq h1.2]
  · cases h1

theorem requestCatalogued_sound {M : Model} {P : Pkg} {r : Request} (h : requestCatalogued M P r = true) :
    RequestCatalogued M P r := by
  unfold requestCatalogued at h
  split at h
  · next cls resp hc hr =>
    simp only [Bool.and_eq_true] at h
    obtain ⟨⟨⟨h1, h2⟩, h3⟩, h4⟩ := h
    exact ⟨cls, resp, hc, hr, catalogueEntryOK_sound h1, classOK_sound h2, classOK_sound h3, dirConstOK_sound h4⟩
  · cases h

theorem notificationCatalogued_sound {M : Model} {P : Pkg} {n : Notification} (h : notificationCatalogued M P n = true) :
    NotificationCatalogued M P n := by
  unfold notificationCatalogued at h
  split at h
  · next cls hc =>
    simp only [Bool.and_eq_true] at h
    obtain ⟨⟨h1, h2⟩, h3⟩ := h
    exact ⟨cls, hc, catalogueEntryOK_sound h1, classOK_sound h2, dirConstOK_sound h3⟩
  · cases h

theorem nothingElse_sound {M : Model} {P : Pkg} (h : nothingElse M P = true) : NothingElse M P := by
  simp only [nothingElse, Bool.and_eq_true, List.all_eq_true, List.contains_iff_mem] at h
  exact ⟨h.1.1, h.1.2, h.2⟩

theorem registryComplete_sound {P : Pkg} (h : registryComplete P = true) : RegistryComplete P := by
  simp only [registryComplete, Bool.and_eq_true, List.all_eq_true, Bool.not_eq_true'] at h
  exact ⟨subMerge_sound _ _ _ h.1.1, h.1.2, h.2⟩

end LspVerif
