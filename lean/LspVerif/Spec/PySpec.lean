/-
  The documented metamodel -> Python mapping as a *specification function*, written from the
  package documentation and the property statements (C04, C09, C10, C13), not from the generator:
  what a faithful Python image of a metamodel looks like.  The checkers compare regenerated
  tables against it and return the list of mismatches (never a Bool) so a failed obligation
  names its site.
-/
import LspVerif.Core.Meta
import LspVerif.Core.Py
namespace LspVerif

structure Mismatch where
  site : String
  aspect : String
  expected : String
  actual : String
  deriving Repr, Inhabited

/-- The documented customisation: CompletionItemKind accepts custom values. -/
def customize (M : Model) : Model :=
  { M with enumerations := M.enumerations.map (fun e => if e.name == n!"CompletionItemKind" then { e with custom := true } else e) }

def basePy : Base → PyTy
  | .decimal => .float
  | .boolean => .bool
  | .integer | .uinteger => .int
  | .string | .documentUri | .uri => .str
  | .null => .none
  | .regExp => .unknown "RegExp"

/-- the fuel bounds alias expansion and nesting -/
def pyTyOf (M : Model) : Nat → Ty → PyTy
  | 0, _ => .unknown "fuel"
  | n + 1, t =>
    match t with
    | .base b => basePy b
    | .ref r =>
      if r == n!"LSPAny" then PyTy.mkUnion [.any, .none]
      else if r == n!"LSPObject" then .obj
      else match M.findEnum r with
        | some e => if e.custom then PyTy.mkUnion [.enum r, basePy e.base] else .enum r
        | none => match M.findStruct r with
          | some _ => .cls r
          | none => match M.findAlias r with
            | some a => pyTyOf M n a.ty
            | none => .unknown (Name.toString r)
    | .array e => .seq (pyTyOf M n e)
    | .map k v => .dict (pyTyOf M n k) (pyTyOf M n v)
    | .tuple ts => .tuple (ts.map (pyTyOf M n))
    | .or ts => PyTy.mkUnion (ts.map (pyTyOf M n))
    | .and _ => .unknown "and"
    | .strLit _ => .str
    | .intLit _ => .int
    | .boolLit _ => .bool
    | .lit [] => .any
    | .lit _ => .unknown "anonymous literal"

def tyFuel : Nat := 16

def baseVld : Base → Vld
  | .integer => .int32
  | .uinteger => .uint31
  | .string | .documentUri | .uri => .instStr
  | .boolean => .instBool
  | .decimal => .instFloat
  | _ => .none

structure ExpField where
  wire : Name
  ty : PyTy
  required : Bool
  dflt : Dflt
  vld : Vld
  omitDflt : Bool      -- omit_if_default expected for the unstructure function (C10)
  deriving Repr, Inhabited

/-- A property is "optional on the wire" when marked optional or null-admitting. -/
def Prp.opt (p : Prp) : Bool := p.optional || p.ty.nullAdmitting

def expectedDflt (ty : Ty) (opt : Bool) : Dflt :=
  match ty with
  | .strLit s => .str s
  | _ => if opt then .none else .nothing

theorem expectedDflt_nonlit (ty : Ty) (o : Bool) (h : ty.isStrLit = false) :
    expectedDflt ty o = if o then .none else .nothing := by
  unfold expectedDflt
  split
  · cases h
  · rfl

def expectedField (M : Model) (p : Prp) : ExpField :=
  let t := pyTyOf M tyFuel p.ty
  let v := match p.ty with
    | .strLit s => Vld.inLit [s]
    | .base b => (match baseVld b with | .none => Vld.none | v => if p.opt then .opt v else v)
    | _ => Vld.none
  { wire := p.name
    ty := if p.opt then t.optional else t
    required := !p.opt && !p.ty.isStrLit
    dflt := expectedDflt p.ty p.opt
    vld := v
    -- written even when unset iff null-admitting or a string literal
    omitDflt := !(p.ty.nullAdmitting || p.ty.isStrLit) }

def expectedFields (M : Model) (s : Struct) : List ExpField := (flatten M s).map (expectedField M)

def showTy (t : PyTy) : String := toString (repr t)

theorem of_ite_nil {α} {c : Prop} [Decidable c] {x : α} {xs : List α} (h : (if c then [] else x :: xs) = []) : c :=
  Decidable.by_contra fun hc => by rw [if_neg hc] at h; cases h

def fieldMismatches (site : String) (e : ExpField) (f : Field) : List Mismatch :=
  (if f.wireU == e.wire then [] else [⟨site, "wire-name-written", e.wire.toString, f.wireU.toString⟩]) ++
  (if PyTy.beq f.ty e.ty then [] else [⟨site, "annotation", showTy e.ty, showTy f.ty⟩]) ++
  (if (f.dflt == .nothing) == e.required then [] else [⟨site, "required", toString e.required, toString (repr f.dflt)⟩]) ++
  (if f.dflt == e.dflt then [] else [⟨site, "default", toString (repr e.dflt), toString (repr f.dflt)⟩]) ++
  (if f.vld == e.vld then [] else [⟨site, "validator", toString (repr e.vld), toString (repr f.vld)⟩]) ++
  (if f.plain then [] else [⟨site, "plain-attrs-field", "true", "false"⟩])

def classMismatches (cname : String) (exp : List ExpField) (c : Cls) : List Mismatch :=
  exp.flatMap (fun e =>
    match c.fields.filter (·.wireS == e.wire) with
    | [f] => fieldMismatches (cname ++ "." ++ e.wire.toString) e f
    | [] => [⟨cname ++ "." ++ e.wire.toString, "missing", e.wire.toString, ""⟩]
    | _ => [⟨cname ++ "." ++ e.wire.toString, "duplicate", e.wire.toString, ""⟩]) ++
  c.fields.flatMap (fun f =>
    if exp.any (·.wire == f.wireS) then [] else [⟨cname ++ "." ++ f.wireS.toString, "extra", "", f.name.toString⟩])

def structMismatches (M : Model) (P : Pkg) (s : Struct) : List Mismatch :=
  match P.findCls s.name with
  | none => [⟨s.name.toString, "class-missing", s.name.toString, ""⟩]
  | some c => classMismatches s.name.toString (expectedFields M s) c

def enumBase : Base → Name
  | .string => n!"str"
  | .integer | .uinteger => n!"int"
  | _ => n!""

def enumMismatches (P : Pkg) (e : Enum) : List Mismatch :=
  match P.findEnum e.name with
  | none => [⟨e.name.toString, "enum-missing", e.name.toString, ""⟩]
  | some pe =>
    (if pe.base == enumBase e.base then [] else [⟨e.name.toString, "enum-base", (enumBase e.base).toString, pe.base.toString⟩]) ++
    (if pe.members.map (·.2) == e.values.map (·.value) then []
     else [⟨e.name.toString, "enum-values", toString (repr (e.values.map (·.value))), toString (repr (pe.members.map (·.2)))⟩])

def aliasMismatches (M : Model) (P : Pkg) (a : Alias) : List Mismatch :=
  match P.aliases.find? (·.1 == a.name) with
  | none => [⟨a.name.toString, "alias-missing", a.name.toString, ""⟩]
  | some (_, t) =>
    let e := pyTyOf M tyFuel (.ref a.name)
    if PyTy.beq t e then [] else [⟨a.name.toString, "alias-type", showTy e, showTy t⟩]

/-- Both readings of "nearest declaration wins" select the same declaration for every name. -/
def nearestMismatches (M : Model) (s : Struct) : List Mismatch :=
  let a := flatten M s
  let b := flattenBFS M s
  a.flatMap (fun p =>
    match b.find? (·.name == p.name) with
    | none => [⟨s.name.toString ++ "." ++ p.name.toString, "nearest-reading", "present", "absent"⟩]
    | some q => if p.ty == q.ty && p.optional == q.optional then [] else [⟨s.name.toString ++ "." ++ p.name.toString, "nearest-reading", "same declaration", "different"⟩]) ++
  (if a.length == b.length then [] else [⟨s.name.toString, "nearest-reading-count", toString a.length, toString b.length⟩])

/-- Slices, so that the table obligations can be discharged in parallel files. -/
def slice {α} (xs : List α) (k n : Nat) : List α := (xs.drop (k * n)).take n

theorem mem_slice_of_mem_lt {α} {xs : List α} {n N : Nat} (hn : 0 < n) (hlen : xs.length ≤ N * n) {x : α}
    (hx : x ∈ xs) : ∃ k, k < N ∧ x ∈ slice xs k n := by
  obtain ⟨i, hi, rfl⟩ := List.mem_iff_getElem.1 hx
  refine ⟨i / n, Nat.div_lt_of_lt_mul (Nat.mul_comm N n ▸ Nat.lt_of_lt_of_le hi hlen),
    List.mem_iff_getElem?.2 ⟨i % n, ?_⟩⟩
  rw [slice, List.getElem?_take_of_lt (Nat.mod_lt i hn), List.getElem?_drop, Nat.div_add_mod', List.getElem?_eq_getElem hi]

theorem mem_slice_of_mem {α} (xs : List α) (n : Nat) (hn : 0 < n) (x : α) (hx : x ∈ xs) :
    ∃ k, x ∈ slice xs k n :=
  let ⟨k, _, hk⟩ := mem_slice_of_mem_lt hn (Nat.le_mul_of_pos_right xs.length hn) hx
  ⟨k, hk⟩

theorem slice_eq_nil {α} (xs : List α) (k n : Nat) (h : xs.length ≤ k * n) : slice xs k n = [] := by
  rw [slice, List.drop_eq_nil_of_le h, List.take_nil]

theorem all_of_slices {α} (xs : List α) (p : α → Bool) (n N : Nat) (hn : 0 < n) (hlen : xs.length ≤ N * n)
    (h : ∀ k, k < N → (slice xs k n).all p = true) : xs.all p = true :=
  List.all_eq_true.2 fun _ hx =>
    let ⟨k, hk, hm⟩ := mem_slice_of_mem_lt hn hlen hx
    List.all_eq_true.1 (h k hk) _ hm


def conformsStructs (M : Model) (P : Pkg) (ss : List Struct) : List Mismatch :=
  ss.flatMap (fun s => structMismatches M P s ++ nearestMismatches M s)

def conformsEnums (M : Model) (P : Pkg) : List Mismatch := M.enumerations.flatMap (enumMismatches P)
def conformsAliases (M : Model) (P : Pkg) : List Mismatch := M.aliases.flatMap (aliasMismatches M P)

end LspVerif
