/-
  Metamodel validity of a JSON value, read strictly (declared properties only, required ones
  present, integer ranges, closed enumerations, literal values), and the JSON-RPC envelope reading
  of C17: request id integer-or-string, `jsonrpc: "2.0"`, the method literal, declared envelope
  properties only.  Structures / literals without any declared property are extension points
  (any object), as the metamodel documents for `{}` literals.
-/
import LspVerif.Core.Json
import LspVerif.Spec.PySpec
namespace LspVerif

def inInt32 (i : Int) : Bool := decide (-2147483648 ≤ i) && decide (i ≤ 2147483647)
def inUInt31 (i : Int) : Bool := decide (0 ≤ i) && decide (i ≤ 2147483647)

def validBase : Base → Json → Bool
  | .string, .str _ | .documentUri, .str _ | .uri, .str _ | .regExp, .str _ => true
  | .integer, .int i => inInt32 i
  | .uinteger, .int i => inUInt31 i
  | .decimal, .int _ | .decimal, .dec _ => true
  | .boolean, .bool _ => true
  | .null, .null => true
  | _, _ => false

def enumHas (e : Enum) (j : Json) : Bool :=
  match j with
  | .str s => e.values.any (fun v => v.value == .s s)
  | .int i => e.values.any (fun v => v.value == .i i)
  | _ => false

def validProps (recur : Ty → Json → Bool) (props : List (Name × Bool × Ty)) (kvs : List (Name × Json)) : Bool :=
  if props.isEmpty then true else
  kvs.all (fun kv => props.any (fun p => p.1 == kv.1)) &&
  props.all (fun p => match Json.lookup kvs p.1 with
    | some v => recur p.2.2 v
    | none => p.2.1)

def propsOf (ps : List Prp) : List (Name × Bool × Ty) := ps.map (fun p => (p.name, p.optional, p.ty))

def validTy (M : Model) : Nat → Ty → Json → Bool
  | 0, _, _ => false
  | n + 1, t, j =>
    match t with
    | .base b => validBase b j
    | .strLit s => (match j with | .str x => x == s | _ => false)
    | .intLit i => (match j with | .int x => x == i | _ => false)
    | .boolLit b => (match j with | .bool x => x == b | _ => false)
    | .ref r =>
      if r == n!"LSPAny" then true
      else if r == n!"LSPObject" then (match j with | .obj _ => true | _ => false)
      else if r == n!"LSPArray" then (match j with | .arr _ => true | _ => false)
      else match M.findEnum r with
        | some e => if e.custom then validBase e.base j else enumHas e j
        | none => match M.findStruct r with
          | some s => (match j with
            | .obj kvs => validProps (validTy M n) (propsOf (flatten M s)) kvs
            | _ => false)
          | none => match M.findAlias r with
            | some a => validTy M n a.ty j
            | none => false
    | .array e => (match j with | .arr xs => xs.all (validTy M n e) | _ => false)
    | .map _ v => (match j with | .obj kvs => kvs.all (fun kv => validTy M n v kv.2) | _ => false)
    | .tuple ts => (match j with
      | .arr xs => xs.length == ts.length && (ts.zip xs).all (fun p => validTy M n p.1 p.2)
      | _ => false)
    | .or ts => ts.any (fun a => validTy M n a j)
    | .and ts =>
      (match j with
       | .obj kvs =>
         let props := ts.flatMap (fun a => match a with
           | .ref r => (match M.findStruct r with | some s => propsOf (flatten M s) | none => [])
           | _ => [])
         validProps (validTy M n) props kvs
       | _ => false)
    | .lit props => (match j with | .obj kvs => validProps (validTy M n) props kvs | _ => false)

/-- `genFuel + 2` (Spec/TestGen.lean): the envelope, then its members at `genFuel + 1` -/
def vFuel : Nat := 60

def idTyJ : Ty := .or [.base .integer, .base .string]

def validRequest (M : Model) (r : Request) (j : Json) : Bool :=
  let props : List (Name × Bool × Ty) :=
    [(n!"jsonrpc", false, .strLit n!"2.0"), (n!"id", false, idTyJ), (n!"method", false, .strLit r.method)] ++
    (match r.params with | some t => [(n!"params", false, t)] | none => [])
  validTy M vFuel (.lit props) j

/-- response message, as the response class declares it: jsonrpc, id (of the request), result -/
def validResponse (M : Model) (r : Request) (j : Json) : Bool :=
  validTy M vFuel (.lit [(n!"jsonrpc", false, .strLit n!"2.0"), (n!"id", false, idTyJ), (n!"result", false, r.result)]) j

def validNotification (M : Model) (nt : Notification) (j : Json) : Bool :=
  let props : List (Name × Bool × Ty) :=
    [(n!"jsonrpc", false, .strLit n!"2.0"), (n!"method", false, .strLit nt.method)] ++
    (match nt.params with | some t => [(n!"params", false, t)] | none => [])
  validTy M vFuel (.lit props) j

theorem validProps_cons (recur : Ty → Json → Bool) (p : Name × Bool × Ty) (ps : List (Name × Bool × Ty)) (kvs : List (Name × Json))
    (h : validProps recur (p :: ps) kvs = true) :
    (match Json.lookup kvs p.1 with | some v => recur p.2.2 v = true | none => p.2.1 = true) := by
  -- `validProps` on a non-empty list computes to `closed && (head && tail)`
  have h2 : (match Json.lookup kvs p.1 with | some v => recur p.2.2 v | none => p.2.1) = true :=
    (Bool.and_eq_true_iff.mp (Bool.and_eq_true_iff.mp h).2).1
  revert h2
  cases Json.lookup kvs p.1 <;> exact id

theorem validTy_array (M : Model) (n : Nat) (e : Ty) (xs : List Json) :
    validTy M (n + 1) (.array e) (.arr xs) = xs.all (validTy M n e) := rfl

theorem validTy_or (M : Model) (n : Nat) (ts : List Ty) (j : Json) :
    validTy M (n + 1) (.or ts) j = ts.any (fun a => validTy M n a j) := rfl

theorem validTy_tuple (M : Model) (n : Nat) (ts : List Ty) (xs : List Json) :
    validTy M (n + 1) (.tuple ts) (.arr xs) = (xs.length == ts.length && (ts.zip xs).all (fun p => validTy M n p.1 p.2)) := rfl
theorem validTy_map (M : Model) (n : Nat) (k x : Ty) (kvs : List (Name × Json)) :
    validTy M (n + 1) (.map k x) (.obj kvs) = kvs.all (fun kv => validTy M n x kv.2) := rfl
theorem validTy_lit (M : Model) (n : Nat) (props : List (Name × Bool × Ty)) (kvs : List (Name × Json)) :
    validTy M (n + 1) (.lit props) (.obj kvs) = validProps (validTy M n) props kvs := rfl
theorem validTy_base (M : Model) (n : Nat) (b : Base) (j : Json) : validTy M (n + 1) (.base b) j = validBase b j := rfl
theorem strLit_valid {M : Model} {n : Nat} {s : Name} : validTy M (n + 1) (.strLit s) (.str s) = true := beq_self_eq_true s

end LspVerif
