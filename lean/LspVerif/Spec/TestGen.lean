/-
  A model of the testdata plugin's generation algorithm
  (generator/plugins/testdata/testdata_generator.py): for every type of the metamodel the list of
  (label, value) pairs it yields, in order; the envelope variants; the per-message vectors.
  `none` stands for the Python exceptions of the algorithm (ZeroDivisionError of `extend` on an empty
  variant list, `max()` of an empty sequence, unknown reference, a non-dict member of an `and`), or
  for fuel exhaustion (the real recursion is bounded by the `visited` list: at most two occurrences
  of a reference name on a path).

  The model is tied to the code by the correspondence of tools/props/c17.py: the driver
  (Driver/TestGen.lean) prints every vector of every message class for the metamodel of the run and the
  stream is compared, in order and with key order, with what `generate()` of the current tree yields.
  The theorems about it are in Props/C17GenType.lean (`gen_good`) and Props/C17GenMsg.lean.
-/
import LspVerif.Spec.StrictValid
namespace LspVerif.TestGen
open LspVerif

/-- a generated value, or the `Ignore()` marker (an optional property / absent member left out) -/
inductive GV
  | ignore
  | val (j : Json)
  deriving Inhabited

abbrev Vs := List (Bool × GV)

def GV.isIgnore : GV → Bool
  | .ignore => true
  | .val _ => false

def LSP_MAX_INT : Int := 2147483647
def LSP_MIN_INT : Int := -2147483648
def LSP_OVER_MAX_INT : Int := 2147483648
def LSP_UNDER_MIN_INT : Int := -2147483649
def LSP_OVER_MAX_UINT : Int := 4294967297
def LSP_UNDER_MIN_UINT : Int := -1

def someString : Name := n!"some string 🐍🐜"
def one0 : Json := .dec n!"1.0"

def v (b : Bool) (j : Json) : Bool × GV := (b, .val j)

def genBase : Base → Vs
  | .string => [v true (.str someString), v true (.str n!"")]
  | .integer => [v true (.int 1), v true (.int LSP_MAX_INT), v true (.int LSP_MIN_INT), v false (.int LSP_OVER_MAX_INT), v false (.int LSP_UNDER_MIN_INT)]
  | .decimal => [v true one0]
  | .boolean => [v true (.bool true), v true (.bool false)]
  | .null => [v true .null]
  | .uinteger => [v true (.int 1), v true (.int LSP_MAX_INT), v true (.int 0), v false (.int LSP_OVER_MAX_UINT), v false (.int LSP_UNDER_MIN_UINT)]
  | .uri | .documentUri => [v true (.str n!"file:///some/path")]
  | .regExp => [v true (.str n!".*")]

/-- `zip(*extend_all(lists))`: row k takes element k mod len of every list, for k below min(1000, longest) -/
def rows {α} (lists : List (List α)) : Option (List (List α)) :=
  if lists.isEmpty || lists.any (·.isEmpty) then none
  else
    let maxLen := min 1000 (lists.foldl (fun m l => max m l.length) 0)
    some ((List.range maxLen).map (fun k => lists.filterMap (fun l => l[k % l.length]?)))

/-- `d.update(e)` on insertion-ordered dicts -/
def dictSet (kvs : List (Name × Json)) (k : Name) (x : Json) : List (Name × Json) :=
  if kvs.any (·.1 == k) then kvs.map (fun kv => if kv.1 == k then (k, x) else kv) else kvs ++ [(k, x)]

def dictUpdate (a b : List (Name × Json)) : List (Name × Json) := b.foldl (fun acc kv => dictSet acc kv.1 kv.2) a

/-- a dict literal / comprehension with possibly repeated keys -/
def dictOf (kvs : List (Name × Json)) : List (Name × Json) := dictUpdate [] kvs

/-- get_all_extends -/
def allExtends (M : Model) : Nat → Struct → Option (List Struct)
  | 0, _ => none
  | f + 1, s =>
    s.exts.foldlM (fun acc e => do
      let es ← M.findStruct e
      let sub ← allExtends M f es
      let acc := acc ++ [es]
      pure (sub.foldl (fun a x => if a.any (·.name == x.name) then a else a ++ [x]) acc)) []

def addProps (acc more : List Prp) : List Prp :=
  more.foldl (fun a p => if a.any (·.name == p.name) then a else a ++ [p]) acc

/-- get_all_properties: own, then those of every (transitive) base, then those of the mixins; first declaration wins -/
def allProps (M : Model) : Nat → Struct → Option (List Prp)
  | 0, _ => none
  | f + 1, s => do
    let exts ← allExtends M (f + 1) s
    let acc ← exts.foldlM (fun acc e => do pure (addProps acc (← allProps M f e))) (addProps [] s.props)
    s.mixins.foldlM (fun acc m => do
      let ms ← M.findStruct m
      pure (addProps acc (← allProps M f ms))) acc

def keyOf : Json → Option Name
  | .str s => some s
  | .int i => some (Name.ofString (toString i))
  | _ => none

def isNullTy : Ty → Bool
  | .base .null => true
  | _ => false

def objOfRow (names : List Name) (row : List (Bool × GV)) : Json :=
  .obj (dictOf ((names.zip row).filterMap (fun p => match p.2.2 with | .val j => some (p.1, j) | .ignore => none)))

def rowValid (row : List (Bool × GV)) : Bool := row.all (·.1)

def propFuel : Nat := 64

/-- generate_for_type (with generate_for_reference etc. inlined); `vis` is the `visited` list -/
def genTy (M : Model) : Nat → List Name → Ty → Option Vs
  | 0, _, _ => none
  | f + 1, vis, t =>
    match t with
    | .base b => some (genBase b)
    | .strLit s => some [v true (.str s)]
    | .intLit _ | .boolLit _ => some []          -- no such branch in generate_for_type: nothing is yielded
    | .array e => do
      let g ← genTy M f vis e
      let singles := g.filterMap (fun p => match p.2 with | .val j => some (v p.1 (.arr [j])) | .ignore => none)
      let g100 := g.take 100
      let pairs := g100.flatMap (fun a => g100.filterMap (fun b =>
        match a.2, b.2 with
        | .val x, .val y => some (v (a.1 && b.1) (.arr [x, y]))
        | _, _ => none))
      pure (v true (.arr []) :: singles ++ pairs)
    | .tuple ts => do
      let gs ← ts.mapM (genTy M f vis)
      let rs ← rows gs
      pure (rs.map (fun row => v (rowValid row) (.arr (row.filterMap (fun p => match p.2 with | .val j => some j | .ignore => none)))))
    | .map k x => do
      let ks ← genTy M f vis k
      let xs ← genTy M f vis x
      let pairs := ks.flatMap (fun a => xs.filterMap (fun b =>
        match a.2, b.2 with
        | .val kj, .val xj => some (a.1 && b.1, kj, xj)
        | _, _ => none))
      pairs.mapM (fun p => (keyOf p.2.1).map (fun key => v p.1 (.obj [(key, p.2.2)])))
    | .or ts => do
      let gs ← (ts.filter (fun t => !isNullTy t)).mapM (genTy M f vis)
      pure ((if ts.any isNullTy then [v true .null] else []) ++ gs.flatten)
    | .and ts => do
      let gs ← ts.mapM (genTy M f vis)
      let rs ← rows gs
      rs.mapM (fun row => do
        let ds ← row.mapM (fun p => match p.2 with | .val (.obj kvs) => some kvs | _ => none)
        pure (v (rowValid row) (.obj (ds.foldl dictUpdate []))))
    | .lit props =>
      if props.isEmpty then some [v true (.obj [(n!"lspExtension", .str n!"some value")]), v true (.obj [])]
      else do
        let gs ← props.mapM (fun p => genTy M f vis p.2.2)
        let rs ← rows gs
        pure (rs.map (fun row => v (rowValid row) (objOfRow (props.map (·.1)) row)))
    | .ref r =>
      let vis := vis ++ [r]
      if (vis.filter (· == r)).length > 2 then some []
      else match M.findStruct r with
        | some s => do
          let props ← allProps M propFuel s
          if props.isEmpty then pure [v true (.obj [(n!"lspExtension", .str n!"some value")]), v true (.obj [])]
          else
            let gs ← props.mapM (fun p => do
              let g ← genTy M f vis p.ty
              pure (if p.optional then (true, GV.ignore) :: g else g))
            let rs ← rows gs
            pure (rs.map (fun row => v (rowValid row) (objOfRow (props.map (·.name)) row)))
        | none => match M.findAlias r with
          | some a => do
            let g ← genTy M f vis a.ty
            if r == n!"LSPObject" || r == n!"LSPAny" || r == n!"LSPArray" then pure (g.map (fun p => (true, p.2))) else pure g
          | none => match M.findEnum r with
            | some e => match e.values.head? with
              | none => none                               -- enum.values[0]: IndexError
              | some e0 => (match e0.value with
                | .i i => some [v true (.int i), v e.custom (.int 12345)]
                | .s s => some [v true (.str s), v e.custom (.str n!"testCustomValue")])
            | none => none                                 -- ValueError: unknown reference

/-- one below the fuel at which `validRequest` … read the `params` / `result` member (vFuel - 2): see Props/C17GenMsg.lean -/
def genFuel : Nat := 58

def idVariants : List (Bool × Json) :=
  [(true, .int 1), (true, .int LSP_MAX_INT), (true, .int LSP_MIN_INT), (true, .str n!"string-id-1"),
   (false, .int LSP_OVER_MAX_INT), (false, .int LSP_UNDER_MIN_INT), (false, one0), (false, .bool true), (false, .null)]

def jsonrpc : Name × Json := (n!"jsonrpc", .str n!"2.0")

def requestVariants (method : Name) : List (Bool × List (Name × Json)) :=
  idVariants.map (fun p => (p.1, [jsonrpc, (n!"id", p.2), (n!"method", .str method)])) ++
  [(false, [jsonrpc, (n!"method", .str method)]), (false, [jsonrpc, (n!"id", .int 1)]), (false, [(n!"id", .int 1), (n!"method", .str method)])]

def responseVariants : List (Bool × List (Name × Json)) :=
  idVariants.map (fun p => (p.1, [jsonrpc, (n!"id", p.2)])) ++ [(false, [jsonrpc]), (false, [(n!"id", .int 1)])]

def notifyVariants (method : Name) : List (Bool × List (Name × Json)) :=
  [(true, [jsonrpc, (n!"method", .str method)]), (false, [jsonrpc, (n!"id", .int 1), (n!"method", .str method)])]

def genOpt (M : Model) : Option Ty → Option Vs
  | none => some [(true, .ignore)]
  | some t => genTy M genFuel [] t

/-- an envelope variant paired with a generated member -/
inductive Part
  | env (kvs : List (Name × Json))
  | gv (g : GV)
  deriving Inhabited

def withParams (envs : List (Bool × List (Name × Json))) (ps : Vs) : Option (List (Bool × Json)) := do
  let rs ← rows [envs.map (fun e => (e.1, Part.env e.2)), ps.map (fun p => (p.1, Part.gv p.2))]
  rs.mapM (fun row => match row with
    | [(b1, .env base), (b2, .gv (.val p))] => some (b1 && b2, .obj (dictUpdate base [(n!"params", p)]))
    | [(b1, .env base), (b2, .gv .ignore)] => some (b1 && b2, .obj base)
    | _ => none)

def genRequest (M : Model) (r : Request) : Option (List (Bool × Json)) := do
  withParams (requestVariants r.method) (← genOpt M r.params)

def genNotification (M : Model) (n : Notification) : Option (List (Bool × Json)) := do
  withParams (notifyVariants n.method) (← genOpt M n.params)

def responseError : Struct :=
  { name := n!"ResponseError",
    props := [{ name := n!"code", ty := .base .integer }, { name := n!"message", ty := .base .string },
              { name := n!"data", ty := .ref n!"LSPObject", optional := true }] }

/-- `spec.structures.append(RESPONSE_ERROR)` -/
def withResponseError (M : Model) : Model := { M with structures := M.structures ++ [responseError] }

def genResponse (M : Model) (r : Request) : Option (List (Bool × Json)) := do
  let res ← genTy M genFuel [] r.result
  let err ← genTy M genFuel [] (.ref n!"ResponseError")
  let rs ← rows [responseVariants.map (fun e => (e.1, Part.env e.2)), res.map (fun p => (p.1, Part.gv p.2)), err.map (fun p => (p.1, Part.gv p.2))]
  rs.mapM (fun row => match row with
    | [(b1, .env base), (b2, .gv (.val x)), (b3, .gv (.val e))] => some (b1 && b2 && b3, .obj (dictUpdate (dictUpdate base [(n!"result", x)]) [(n!"error", e)]))
    | [(b1, .env base), (b2, .gv .ignore), (b3, _)] => some (b1 && b2 && b3, .obj base)
    | _ => none)

end LspVerif.TestGen
